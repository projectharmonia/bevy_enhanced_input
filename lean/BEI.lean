-- Root of the `BEI` library: the model, the driver, every property module and the non-vacuity witnesses.
-- (The bridge modules `BEI.Bridge.*` and the generated `BEI.Gen.Code.*` are built by `setup.sh` and by the checks.)
import BEI.Driver.Run
import BEI.Props.C01
import BEI.Props.C02
import BEI.Props.C03
import BEI.Props.C04
import BEI.Props.C05
import BEI.Props.C06
import BEI.Props.C07
import BEI.Props.C08
import BEI.Props.C09
import BEI.Props.C10
import BEI.Props.C11
import BEI.Props.C12
import BEI.Props.C13
import BEI.Props.C14
import BEI.Props.C15
import BEI.Props.C16
import BEI.Props.C17
import BEI.Props.C18
import BEI.Props.C19
import BEI.Props.C20
import BEI.Props.Witness
