/-
  C11 — Built-in conditions follow their documented patterns in the chosen time base.
  Histories are lists of (value, tick) frames, newest first; every statement holds for histories of any length.
-/
import BEI.Model.Conditions
import Mathlib.Algebra.Order.Field.Rat
namespace BEI.Props.C11
open Cond

/-- a frame as a condition sees it -/
abbrev Frame := Value × Tick
/-- a history, newest frame first -/
abbrev Hist := List Frame

/-- running a condition's step function over a history (from its initial state) -/
def run {σ : Type} (step : σ → Tick → Value → σ × AState) (s0 : σ) : Hist → σ × AState
  | [] => (s0, .none)
  | f :: rest => step (run step s0 rest).1 f.2 f.1

theorem run_cons {σ : Type} (step : σ → Tick → Value → σ × AState) (s0 : σ) (f : Frame) (rest : Hist) :
    run step s0 (f :: rest) = step (run step s0 rest).1 f.2 f.1 := rfl

/-! ### the time base -/

/-- the timer increment of one frame: virtual delta when the condition is configured for relative (dilated) time, the
    virtual delta unscaled by the relative speed (= real time) otherwise; nothing at relative speed zero -/
def inc (rel : Bool) (t : Tick) : Rat :=
  let sc := if rel then 1 else t.speed
  if sc != 0 then t.delta / sc else 0

/-- the guard agrees with division by zero being zero -/
theorem inc_eq_div (rel : Bool) (t : Tick) : inc rel t = t.delta / (if rel then 1 else t.speed) := by
  -- the `if` is its first branch, because where the guard fails that branch is `x / 0`
  refine ite_eq_left_iff.2 fun h => ?_
  rw [of_not_not (mt bne_iff_ne.2 h), div_zero]

theorem timer_update (tm : CTimer) (t : Tick) : tm.update t = { tm with duration := tm.duration + inc tm.relative t } := by
  unfold CTimer.update inc
  generalize (if tm.relative then 1 else t.speed) = sc
  dsimp only
  split
  · rfl
  · rw [Rat.add_zero]

/-- relative (virtual) time base: the increment is the virtual delta -/
theorem inc_relative (t : Tick) : inc true t = t.delta := by rw [inc_eq_div, if_pos rfl, div_one]

/-- default (real) time base: with `delta = raw * speed` and a positive speed the increment is the raw (real) delta -/
theorem inc_real (raw speed : Rat) (hs : speed ≠ 0) : inc false { delta := raw * speed, speed := speed } = raw := by
  rw [inc_eq_div]; exact Rat.mul_div_cancel hs

/-- paused (virtual delta 0) or relative speed 0: the timer does not advance — and stays finite (no division by zero) -/
theorem inc_paused (rel : Bool) (speed : Rat) : inc rel { delta := 0, speed := speed } = 0 := by
  rw [inc_eq_div]; exact zero_div _

theorem inc_speed_zero (d : Rat) : inc false { delta := d, speed := 0 } = 0 := by rw [inc_eq_div]; exact div_zero d

theorem inc_nonneg (rel : Bool) {t : Tick} (h1 : 0 ≤ t.delta) (h2 : 0 ≤ t.speed) : 0 ≤ inc rel t := by
  rw [inc_eq_div]
  refine Rat.div_nonneg h1 ?_
  cases rel
  · exact h2
  · exact zero_le_one

/-- how long the input has been actuated continuously up to and including the newest frame -/
def held (act : Rat) (rel : Bool) : Hist → Rat
  | [] => 0
  | (v, t) :: rest => if v.isActuated act then held act rel rest + inc rel t else 0

def actuatedNow (act : Rat) : Hist → Bool
  | [] => false
  | (v, _) :: _ => v.isActuated act

/-- The history invariant shared by the timing conditions (Hold, HoldAndRelease, Tap, Pulse): a step function whose timer
    (read by `tm`) is advanced while the input is actuated and reset otherwise measures `held` along every history -/
theorem run_timer {σ : Type} (step : σ → Tick → Value → σ × AState) (tm : σ → CTimer) (act : Rat) (rel : Bool) (s0 : σ)
    (h0 : tm s0 = { relative := rel })
    (hstep : ∀ s t v, tm (step s t v).1 = if v.isActuated act then (tm s).update t else (tm s).reset) (h : Hist) :
    (tm (run step s0 h).1).duration = held act rel h ∧ (tm (run step s0 h).1).relative = rel := by
  induction h with
  | nil => rw [run, h0]; exact ⟨rfl, rfl⟩
  | cons f rest ih =>
    rw [run_cons, hstep, held]
    split
    · rw [timer_update, ih.1, ih.2]; exact ⟨rfl, rfl⟩
    · exact ⟨rfl, ih.2⟩

/-- The history invariant of the conditions that watch for an edge: a stored flag (read by `fl`) that each step sets to
    "actuated" says whether the newest frame was actuated -/
theorem run_actuated {σ : Type} (step : σ → Tick → Value → σ × AState) (fl : σ → Bool) (act : Rat) (s0 : σ)
    (h0 : fl s0 = false) (hstep : ∀ s t v, fl (step s t v).1 = v.isActuated act) (h : Hist) :
    fl (run step s0 h).1 = actuatedNow act h := by
  cases h with
  | nil => exact h0
  | cons f rest => exact hstep _ _ _

/-! ### Press, JustPress, Release -/

theorem press_spec (id : Nat) (act : Rat) (av : ActionsView) (t : Tick) (v : Value) :
    ((Cond.press id act).eval av t v).2.1 = (if v.isActuated act then .fired else .none) := by
  -- the term `rfl` is twenty times dearer here (Lean first tests whether it may serve as a `dsimp` lemma)
  rfl

def justPressStep (act : Rat) (prev : Bool) (_ : Tick) (v : Value) : Bool × AState :=
  let a := v.isActuated act
  (a, if a && !prev then .fired else .none)

theorem justPress_is_step (id : Nat) (act : Rat) : (Cond.justPress id act).step = fun s _ t v => justPressStep act s t v := by rfl

theorem justPress_state (act : Rat) (h : Hist) : (run (justPressStep act) false h).1 = actuatedNow act h :=
  -- `by rfl`, here and below, because the term `rfl` is markedly slower to check as an argument of `run_actuated` / `run_timer`
  run_actuated _ id act false rfl (fun _ _ _ => by rfl) h

/-- JustPress fires exactly on a rising edge -/
theorem justPress_spec (act : Rat) (f : Frame) (rest : Hist) :
    (run (justPressStep act) false (f :: rest)).2 =
      (if f.1.isActuated act && !actuatedNow act rest then .fired else .none) := by
  simp only [run, justPressStep, justPress_state]

def releaseStep (act : Rat) (prev : Bool) (_ : Tick) (v : Value) : Bool × AState :=
  let a := v.isActuated act
  (a, if a then .ongoing else if prev then .fired else .none)

theorem release_is_step (id : Nat) (act : Rat) : (Cond.release id act).step = fun s _ t v => releaseStep act s t v := by rfl

theorem release_state (act : Rat) (h : Hist) : (run (releaseStep act) false h).1 = actuatedNow act h :=
  run_actuated _ id act false rfl (fun _ _ _ => by rfl) h

/-- Release: Ongoing while actuated, Fired exactly on a falling edge -/
theorem release_spec (act : Rat) (f : Frame) (rest : Hist) :
    (run (releaseStep act) false (f :: rest)).2 =
      (if f.1.isActuated act then .ongoing else if actuatedNow act rest then .fired else .none) := by
  simp only [run, releaseStep, release_state]

/-! ### Hold -/

def holdInit (rel : Bool) : HoldSt := { timer := { relative := rel } }

theorem hold_state (T : Rat) (os : Bool) (act : Rat) (rel : Bool) (h : Hist) :
    let s := (run (holdStep T os act) (holdInit rel) h).1
    s.timer.duration = held act rel h ∧ s.timer.relative = rel ∧ (h ≠ [] → s.fired = leQ T (held act rel h)) := by
  have ht := run_timer (holdStep T os act) (·.timer) act rel (holdInit rel) rfl (fun _ _ _ => by rfl)
  refine ⟨(ht h).1, (ht h).2, fun hne => ?_⟩
  cases h with
  | nil => exact absurd rfl hne
  | cons f rest => rw [← (ht (f :: rest)).1]; rfl

/-- Hold fires once the input has been actuated continuously for the hold time (once only if one-shot); Ongoing while
    actuated before that; None otherwise (`leQ a b` is `a ≤ b`) -/
theorem hold_spec (T : Rat) (os : Bool) (act : Rat) (rel : Bool) (hT : 0 < T) (f : Frame) (rest : Hist) :
    (run (holdStep T os act) (holdInit rel) (f :: rest)).2 =
      (if leQ T (held act rel (f :: rest)) then (if !os || !leQ T (held act rel rest) then .fired else .none)
       else if f.1.isActuated act then .ongoing else .none) := by
  -- the stored flag is "the hold time had been reached at the previous frame" (initially false = `T ≤ 0`)
  have hfired : (run (holdStep T os act) (holdInit rel) rest).1.fired = leQ T (held act rel rest) := by
    cases rest with
    | nil => exact (decide_eq_false (Rat.not_le.2 hT)).symm
    | cons g r => exact (hold_state T os act rel (g :: r)).2.2 (List.cons_ne_nil _ _)
  rw [← (hold_state T os act rel (f :: rest)).1, ← hfired, Bool.or_comm]
  rfl

/-! ### HoldAndRelease (D2 fix) and Tap -/

def holdRelInit (rel : Bool) : HoldRelSt := { timer := { relative := rel } }

/-- `holdRelStep` by components (the timer is read after this frame's increment, and reset on release) -/
theorem holdRelStep_eq (T act : Rat) (s : HoldRelSt) (t : Tick) (v : Value) : holdRelStep T act s t v =
    ({ timer := if v.isActuated act then s.timer.update t else s.timer.reset, actuated := v.isActuated act },
     if v.isActuated act then .ongoing
     else if s.actuated && leQ T (s.timer.duration + inc s.timer.relative t) then .fired else .none) := by
  rw [holdRelStep, timer_update]
  cases v.isActuated act <;> rfl

theorem holdRel_state (T act : Rat) (rel : Bool) (h : Hist) :
    let s := (run (holdRelStep T act) (holdRelInit rel) h).1
    s.timer.duration = held act rel h ∧ s.timer.relative = rel ∧ s.actuated = actuatedNow act h := by
  have ht := run_timer (holdRelStep T act) (·.timer) act rel (holdRelInit rel) rfl
    (fun _ _ _ => by rw [holdRelStep_eq]) h
  exact ⟨ht.1, ht.2, run_actuated _ HoldRelSt.actuated act _ rfl (fun _ _ _ => by rw [holdRelStep_eq]) h⟩

/-- HoldAndRelease: Ongoing while actuated; Fired exactly on a release frame that follows an actuation whose measured
    duration (the continuous actuation plus the release frame's own increment, as the code documents) reaches the hold
    time; None otherwise — in particular never without a preceding actuation -/
theorem holdRel_spec (T act : Rat) (rel : Bool) (f : Frame) (rest : Hist) :
    (run (holdRelStep T act) (holdRelInit rel) (f :: rest)).2 =
      (if f.1.isActuated act then .ongoing
       else if actuatedNow act rest && leQ T (held act rel rest + inc rel f.2) then .fired else .none) := by
  obtain ⟨ih1, ih2, ih3⟩ := holdRel_state T act rel rest
  rw [run_cons, holdRelStep_eq, ih1, ih2, ih3]

def tapInit (rel : Bool) : TapSt := { timer := { relative := rel } }

theorem tap_state (T act : Rat) (rel : Bool) (h : Hist) :
    let s := (run (tapStep T act) (tapInit rel) h).1
    s.timer.duration = held act rel h ∧ s.timer.relative = rel ∧ s.actuated = actuatedNow act h := by
  have ht := run_timer (tapStep T act) (·.timer) act rel (tapInit rel) rfl (fun _ _ _ => by rfl) h
  exact ⟨ht.1, ht.2, run_actuated _ TapSt.actuated act _ rfl (fun _ _ _ => by rfl) h⟩

theorem ite_fired_iff {c : Prop} [Decidable c] {x : AState} (hx : x ≠ .fired) :
    (if c then .fired else x) = .fired ↔ c := by
  split
  · next h => exact iff_of_true rfl h
  · next h => exact iff_of_false hx h

/-- Tap, one evaluation: Fired exactly when the input was actuated at the previous evaluation, is released now, and the
    continuous actuation measured so far (`tap_state`: the timer holds `held` of the history) lasted at most the release time -/
theorem tap_fires_iff (T act : Rat) (s : TapSt) (t : Tick) (v : Value) :
    (tapStep T act s t v).2 = .fired ↔ (s.actuated = true ∧ v.isActuated act = false ∧ s.timer.duration ≤ T) := by
  -- behind the first test of `tapStep` the result is None or Ongoing
  have rest : ∀ p q : Bool, (if p then AState.none else if q then .ongoing else .none) ≠ .fired := by decide
  rw [← leQ_iff, ← Bool.not_eq_true', ← Bool.and_eq_true, ← Bool.and_eq_true, ← Bool.and_assoc]
  exact ite_fired_iff (rest _ _)

/-- Tap, history form: on a release frame the decision reads the continuous actuation that preceded it -/
theorem tap_history (T act : Rat) (rel : Bool) (f : Frame) (rest : Hist) :
    (run (tapStep T act) (tapInit rel) (f :: rest)).2 = .fired ↔
      (actuatedNow act rest = true ∧ f.1.isActuated act = false ∧ held act rel rest ≤ T) := by
  obtain ⟨ih1, _, ih3⟩ := tap_state T act rel rest
  rw [run_cons, tap_fires_iff, ih1, ih3]

/-- Tap over a history: Fired exactly on a release frame whose preceding continuous actuation lasted at most the release
    time; once the actuation has lasted the release time nothing triggers until released; Ongoing while actuated before -/
theorem tap_spec (T act : Rat) (rel : Bool) (f : Frame) (rest : Hist) :
    (run (tapStep T act) (tapInit rel) (f :: rest)).2 =
      (if actuatedNow act rest && !f.1.isActuated act && leQ (held act rel rest) T then .fired
       else if leQ T (held act rel (f :: rest)) then .none
       else if f.1.isActuated act then .ongoing else .none) := by
  -- `tapStep` reads the stored flag and timer, and the timer it has just advanced
  rw [← (tap_state T act rel (f :: rest)).1, ← (tap_state T act rel rest).1, ← (tap_state T act rel rest).2.2]
  rfl

/-! ### Pulse -/

def pulseInit (rel : Bool) : PulseSt := { timer := { relative := rel } }

/-- Pulse, one evaluation: released ⇒ None and the trigger count is reset -/
theorem pulse_released (I : Rat) (limit : Nat) (onStart : Bool) (act : Rat) (s : PulseSt) (t : Tick) (v : Value)
    (h : v.isActuated act = false) :
    (pulseStep I limit onStart act s t v).2 = .none ∧ (pulseStep I limit onStart act s t v).1.count = 0 := by
  simp [pulseStep, h]

/-- Pulse, one evaluation: it fires only while actuated and only below its limit, each fire advances the count by one,
    and the count never exceeds the limit -/
theorem pulse_fire_condition (I : Rat) (limit : Nat) (onStart : Bool) (act : Rat) (s : PulseSt) (t : Tick) (v : Value)
    (hf : (pulseStep I limit onStart act s t v).2 = .fired) :
    v.isActuated act = true ∧ (limit = 0 ∨ s.count < limit) ∧ (pulseStep I limit onStart act s t v).1.count = s.count + 1 := by
  revert hf
  fun_cases pulseStep I limit onStart act s t v
  · next hv _ hl _ _ => exact fun _ => ⟨hv, by simpa using hl, rfl⟩
  -- the other outcomes are Ongoing and None
  all_goals nofun

theorem pulse_count_bounded (I : Rat) (limit : Nat) (onStart : Bool) (act : Rat) (s : PulseSt) (t : Tick) (v : Value)
    (hl : limit ≠ 0) (hs : s.count ≤ limit) : (pulseStep I limit onStart act s t v).1.count ≤ limit := by
  fun_cases pulseStep I limit onStart act s t v
  · next _ _ hc _ _ =>
    -- it fires below the limit only
    rw [Bool.or_eq_true, beq_iff_eq, decide_eq_true_eq] at hc
    exact hc.resolve_left hl
  · exact hs
  · exact hs
  · exact Nat.zero_le _

theorem pulseStep_timer (I : Rat) (limit : Nat) (onStart : Bool) (act : Rat) (s : PulseSt) (t : Tick) (v : Value) :
    (pulseStep I limit onStart act s t v).1.timer = (if v.isActuated act then s.timer.update t else s.timer.reset) := by
  simp only [pulseStep, apply_ite Prod.fst, apply_ite PulseSt.timer, ite_self]

/-- Pulse over a history of any length: the timer measures the continuous actuation, the trigger count stays within the
    limit, and a release resets the count — so with `pulse_fire_condition` it fires at most once per elapsed interval,
    only while actuated, and at most `limit` times per actuation -/
theorem pulse_state (I : Rat) (limit : Nat) (onStart : Bool) (act : Rat) (rel : Bool) (h : Hist) :
    let r := run (pulseStep I limit onStart act) (pulseInit rel) h
    r.1.timer.duration = held act rel h ∧ r.1.timer.relative = rel
    ∧ (limit ≠ 0 → r.1.count ≤ limit)
    ∧ (actuatedNow act h = false → r.1.count = 0 ∧ (h ≠ [] → r.2 = .none)) := by
  have ht := run_timer (pulseStep I limit onStart act) (·.timer) act rel (pulseInit rel) rfl
    (pulseStep_timer I limit onStart act) h
  refine ⟨ht.1, ht.2, ?_⟩
  clear ht
  induction h with
  | nil => exact ⟨fun _ => Nat.zero_le _, fun _ => ⟨rfl, fun hne => absurd rfl hne⟩⟩
  | cons f rest ih =>
    obtain ⟨v, t⟩ := f
    rw [run_cons]
    refine ⟨fun hl => pulse_count_bounded I limit onStart act _ t v hl (ih.1 hl), fun ha => ?_⟩
    have := pulse_released I limit onStart act (run (pulseStep I limit onStart act) (pulseInit rel) rest).1 t v ha
    exact ⟨this.2, fun _ => this.1⟩

/-! ### none of them leaves None without the input having been actuated -/

/-- a release frame resets the measured actuation, whatever came before -/
theorem held_released {act : Rat} {f : Frame} (hf : f.1.isActuated act = false) (rel : Bool) (rest : Hist) :
    held act rel (f :: rest) = 0 :=
  if_neg (Bool.eq_false_iff.1 hf)

theorem actuatedNow_never (act : Rat) (h : Hist) (hn : ∀ f ∈ h, f.1.isActuated act = false) : actuatedNow act h = false := by
  cases h with
  | nil => rfl
  | cons f rest => exact hn f List.mem_cons_self

theorem never_actuated_none (T act : Rat) (os rel : Bool) (hT : 0 < T)
    (h : Hist) (hn : ∀ f ∈ h, f.1.isActuated act = false) :
    (run (justPressStep act) false h).2 = .none
    ∧ (run (releaseStep act) false h).2 = .none
    ∧ (run (holdStep T os act) (holdInit rel) h).2 = .none
    ∧ (run (holdRelStep T act) (holdRelInit rel) h).2 = .none
    ∧ (run (tapStep T act) (tapInit rel) h).2 ≠ .fired := by
  cases h with
  | nil => exact ⟨rfl, rfl, rfl, rfl, nofun⟩
  | cons f rest =>
    have hf : f.1.isActuated act = false := hn f List.mem_cons_self
    have a1 := actuatedNow_never act rest fun g hg => hn g (List.mem_cons_of_mem _ hg)
    have hl0 : leQ T 0 = false := decide_eq_false (Rat.not_le.2 hT)
    refine ⟨?_, ?_, ?_, ?_, ?_⟩
    · rw [justPress_spec, hf]; rfl
    · rw [release_spec, hf, a1]; rfl
    · rw [hold_spec T os act rel hT, held_released hf, hl0, hf]; rfl
    · rw [holdRel_spec, hf, a1]; rfl
    · rw [Ne, tap_history, a1]; exact fun h => Bool.false_ne_true h.1

/-- the timers stay non-negative (and finite: they are rationals) for every non-negative relative speed, while paused
    and at speed zero -/
theorem held_nonneg (act : Rat) (rel : Bool) (h : Hist) (hd : ∀ f ∈ h, 0 ≤ f.2.delta ∧ 0 ≤ f.2.speed) : 0 ≤ held act rel h := by
  induction h with
  | nil => exact Rat.le_refl
  | cons f rest ih =>
    obtain ⟨h1, h2⟩ := hd f List.mem_cons_self
    rw [held]
    split
    · exact Rat.add_nonneg (ih fun g hg => hd g (List.mem_cons_of_mem _ hg)) (inc_nonneg rel h1 h2)
    · exact Rat.le_refl

/-- D2 (fixed by 582dab9): the pinned `HoldAndRelease` fired without any actuation when one frame's delta reached the hold time -/
def legacyHoldRelStep (T act : Rat) (tm : CTimer) (t : Tick) (v : Value) : CTimer × AState :=
  let timer := tm.update t
  if v.isActuated act then (timer, .ongoing)
  else (timer.reset, if leQ T timer.duration then .fired else .none)

theorem legacy_holdRel_counterexample :
    (legacyHoldRelStep (1/10) (1/2) {} ⟨1/4, 1⟩ (.bool false)).2 = .fired
    ∧ (holdRelStep (1/10) (1/2) (holdRelInit false) ⟨1/4, 1⟩ (.bool false)).2 = .none := by
  decide +kernel

end BEI.Props.C11
