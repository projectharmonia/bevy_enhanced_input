/-
  C18 — Built-in modifiers obey their algebraic laws and never invent input (over exact rationals; *partly partial*:
  the radial dead zone is stated for an abstract length function, exponents are natural numbers, `f32` rounding is not
  modelled).  AccumulateBy is covered in C13 (`accumulateBy_spec`).
-/
import BEI.Model.Modifiers
import BEI.Proofs.Value
import Mathlib.Analysis.SpecialFunctions.Pow.Real
namespace BEI.Props.C18
open BEI.Mod

/-! ### Modifiers that act axis by axis -/

/-- Negate, Scale, DeadZone (axial), ExponentialCurve and DeltaScale all have this shape: a function per axis, applied to the
    promoted value -/
def mapV (f g h : Rat → Rat) : Value → Value
  | .bool b => .a1 (f (boolToRat b))
  | .a1 x => .a1 (f x)
  | .a2 x y => .a2 (f x) (g y)
  | .a3 x y z => .a3 (f x) (g y) (h z)

theorem negateV_eq (nx ny nz : Bool) (v : Value) : negateV nx ny nz v =
    mapV (fun x => if nx then -x else x) (fun y => if ny then -y else y) (fun z => if nz then -z else z) v := by
  cases v <;> rfl

theorem scaleV_eq (fx fy fz : Rat) (v : Value) : scaleV fx fy fz v = mapV (· * fx) (· * fy) (· * fz) v := by
  cases v <;> rfl

theorem deltaScaleV_eq (d : Rat) (v : Value) : deltaScaleV d v = mapV (· * d) (· * d) (· * d) v := by
  cases v <;> rfl

theorem deadZoneAxialV_eq (lo hi : Rat) (v : Value) :
    deadZoneAxialV lo hi v = mapV (deadZone1 lo hi) (deadZone1 lo hi) (deadZone1 lo hi) v := by
  cases v <;> rfl

theorem expV_eq (n1 n2 n3 : Nat) (v : Value) :
    expV n1 n2 n3 v = mapV (expCurve1 · n1) (expCurve1 · n2) (expCurve1 · n3) v := by
  cases v <;> rfl

theorem mapV_dim (f g h : Rat → Rat) (v : Value) : (mapV f g h v).dim = v.promote.dim := by cases v <;> rfl

theorem mapV_mapV (f g h f' g' h' : Rat → Rat) (v : Value) :
    mapV f g h (mapV f' g' h' v) = mapV (fun x => f (f' x)) (fun x => g (g' x)) (fun x => h (h' x)) v := by
  cases v <;> rfl

theorem mapV_id (v : Value) : mapV (fun x => x) (fun x => x) (fun x => x) v = v.promote := by cases v <;> rfl

def isZero (v : Value) : Prop := v.as3 = V3.zero

theorem isZero_bool {b : Bool} (hz : isZero (.bool b)) : b = false := by
  cases b
  · rfl
  · exact absurd (congrArg V3.x hz) (by decide)

theorem mapV_isZero {f g h : Rat → Rat} (hf : f 0 = 0) (hg : g 0 = 0) (hh : h 0 = 0) {v : Value} (hz : isZero v) :
    isZero (mapV f g h v) := by
  cases v with
  | bool b => cases isZero_bool hz; exact congrArg (V3.mk · 0 0) hf
  | a1 x => cases hz; exact congrArg (V3.mk · 0 0) hf
  | a2 x y => cases hz; exact congrArg₂ (V3.mk · · 0) hf hg
  | a3 x y z => cases hz; show V3.mk _ _ _ = _; rw [hf, hg, hh]; rfl

/-! ### Negate, Scale, DeltaScale -/

/-- Negate flips the sign of exactly the selected axes -/
theorem negate_axes (nx ny nz : Bool) (x y z : Rat) :
    negateV nx ny nz (.a3 x y z) = .a3 (if nx then -x else x) (if ny then -y else y) (if nz then -z else z)
    ∧ negateV nx ny nz (.a2 x y) = .a2 (if nx then -x else x) (if ny then -y else y)
    ∧ negateV nx ny nz (.a1 x) = .a1 (if nx then -x else x) := ⟨rfl, rfl, rfl⟩

/-- twice is the identity (a Bool input has become its 0/1 axis value) -/
theorem negate_involution (nx ny nz : Bool) (v : Value) :
    negateV nx ny nz (negateV nx ny nz v) = v.promote := by
  have inv (b : Bool) : (fun x : Rat => if b then -(if b then -x else x) else if b then -x else x) = fun x => x := by
    cases b <;> simp
  rw [negateV_eq, negateV_eq, mapV_mapV, inv, inv, inv, mapV_id]

/-- Scale multiplies per axis -/
theorem scale_axes (fx fy fz x y z : Rat) :
    scaleV fx fy fz (.a3 x y z) = .a3 (x * fx) (y * fy) (z * fz) ∧ scaleV fx fy fz (.a2 x y) = .a2 (x * fx) (y * fy)
    ∧ scaleV fx fy fz (.a1 x) = .a1 (x * fx) := ⟨rfl, rfl, rfl⟩

/-- DeltaScale multiplies by the frame delta -/
theorem deltaScale_axes (d x y z : Rat) :
    deltaScaleV d (.a3 x y z) = .a3 (x * d) (y * d) (z * d) ∧ deltaScaleV d (.a2 x y) = .a2 (x * d) (y * d)
    ∧ deltaScaleV d (.a1 x) = .a1 (x * d) := ⟨rfl, rfl, rfl⟩

/-! ### SwizzleAxis -/

/-- the stated permutation of a 3-vector -/
def perm : Swz → V3 → V3
  | .yxz, p => ⟨p.y, p.x, p.z⟩ | .zyx, p => ⟨p.z, p.y, p.x⟩ | .xzy, p => ⟨p.x, p.z, p.y⟩
  | .yzx, p => ⟨p.y, p.z, p.x⟩ | .zxy, p => ⟨p.z, p.x, p.y⟩

/-- on 3D input the output is exactly the stated permutation -/
theorem swizzle_3d (s : Swz) (x y z : Rat) : (swizzleV s (.a3 x y z)).as3 = perm s ⟨x, y, z⟩ := by
  cases s <;> rfl

/-- on Bool / 1D / 2D input the output is the stated permutation of the zero-padded input, truncated to the output
    dimension (2D stays 2D: the axis moved to Z is dropped; 1D is promoted to the dimension that holds its axis) -/
theorem swizzle_low (s : Swz) (v : Value) (hv : v.dim ≠ .a3) :
    (swizzleV s v).as3 =
      (let p := perm s v.promote.as3
       match (swizzleV s v).dim with
       | .bool => p | .a1 => ⟨p.x, 0, 0⟩ | .a2 => ⟨p.x, p.y, 0⟩ | .a3 => p) := by
  cases v with
  | a3 x y z => exact absurd rfl hv
  | _ => cases s <;> rfl

/-- off 2D input no axis is dropped: the output is the permutation of the zero-padded input -/
theorem swizzle_as3 (s : Swz) {v : Value} (hv : v.dim ≠ .a2) : (swizzleV s v).as3 = perm s v.promote.as3 := by
  cases v with
  | a2 x y => exact absurd rfl hv
  | _ => cases s <;> rfl

theorem perm_injective (s : Swz) : Function.Injective (perm s) := by
  rintro ⟨a, b, c⟩ ⟨a', b', c'⟩ h
  cases s <;> cases h <;> rfl

/-- nothing is lost for Bool, 1D and 3D inputs: the input can be read back from the output -/
theorem swizzle_lossless (s : Swz) (v w : Value) (hv : v.dim ≠ .a2) (hw : w.dim ≠ .a2) (hd : v.promote.dim = w.promote.dim)
    (h : swizzleV s v = swizzleV s w) : v.promote = w.promote :=
  Value.ext_as3 hd (perm_injective s (by rw [← swizzle_as3 s hv, ← swizzle_as3 s hw, h]))

/-! ### DeadZone (0 ≤ lower < upper) -/

theorem absQ_eq (x : Rat) : absQ x = |x| := by
  rcases lt_or_ge x 0 with h | h
  · exact (if_pos h).trans (abs_of_neg h).symm
  · exact (if_neg (not_lt.2 h)).trans (abs_of_nonneg h).symm

theorem minQ_eq (a b : Rat) : minQ a b = min a b := ((min_comm a b).trans (min_def_lt b a)).symm

theorem maxQ_eq (a b : Rat) : maxQ a b = max a b := (max_def_lt a b).symm

/-- the unsigned magnitude of the dead-zone output as a function of the input magnitude -/
def dzMag (lo hi a : Rat) : Rat := min (max (a - lo) 0 / (hi - lo)) 1

theorem deadZone1_eq (lo hi x : Rat) : deadZone1 lo hi x = dzMag lo hi |x| * signumQ x := by
  rw [deadZone1, absQ_eq, maxQ_eq, minQ_eq, dzMag]

-- Below, core's lemma for `Rat` (`Rat.div_nonneg`, `Rat.mul_assoc`, …) is taken where there is one: it is stated with the instances
-- the model's terms carry and applies as it stands, where the general lemma needs an instance search and unfolding to match.
theorem dzMag_range {lo hi a : Rat} (h : lo < hi) : 0 ≤ dzMag lo hi a ∧ dzMag lo hi a ≤ 1 :=
  ⟨le_min (Rat.div_nonneg (le_max_right _ _) ((Rat.le_iff_sub_nonneg _ _).1 h.le)) zero_le_one, min_le_right _ _⟩

theorem dzMag_mono {lo hi a b : Rat} (h : lo < hi) (hab : a ≤ b) : dzMag lo hi a ≤ dzMag lo hi b :=
  -- `x / d` unfolds to `x * d⁻¹` (`Rat.div_def`)
  min_le_min_right 1 (Rat.mul_le_mul_of_nonneg_right (max_le_max_right 0 (sub_le_sub_right hab lo))
    (Rat.inv_nonneg ((Rat.le_iff_sub_nonneg _ _).1 h.le)))

theorem dzMag_inside {lo hi a : Rat} (ha : a ≤ lo) : dzMag lo hi a = 0 := by
  rw [dzMag, max_eq_right (sub_nonpos.2 ha), zero_div, min_eq_left zero_le_one]

theorem dzMag_saturates {lo hi a : Rat} (h : lo < hi) (ha : hi ≤ a) : dzMag lo hi a = 1 := by
  have hd : 0 < hi - lo := (Rat.lt_iff_sub_pos _ _).1 h
  exact min_eq_right ((one_le_div hd).2 (le_max_of_le_left (sub_le_sub_right ha lo)))

theorem signumQ_of_nonneg {x : Rat} (h : 0 ≤ x) : signumQ x = 1 := if_neg (not_lt.2 h)

theorem signumQ_of_neg {x : Rat} (h : x < 0) : signumQ x = -1 := if_pos h

theorem signumQ_mul_self (x : Rat) : signumQ x * x = |x| := by
  rw [← absQ_eq, signumQ, ite_mul, Rat.neg_mul, Rat.one_mul, absQ]

theorem signumQ_abs (x : Rat) : |signumQ x| = 1 := by
  rw [signumQ, apply_ite abs, abs_neg, abs_one, ite_self]

theorem deadZone1_of_nonneg {lo hi x : Rat} (h : 0 ≤ x) : deadZone1 lo hi x = dzMag lo hi x := by
  rw [deadZone1_eq, abs_of_nonneg h, signumQ_of_nonneg h, Rat.mul_one]

theorem deadZone1_of_neg {lo hi x : Rat} (h : x < 0) : deadZone1 lo hi x = -dzMag lo hi (-x) := by
  rw [deadZone1_eq, abs_of_neg h, signumQ_of_neg h, Rat.mul_neg, Rat.mul_one]

theorem abs_deadZone1 {lo hi : Rat} (x : Rat) (h : lo < hi) : |deadZone1 lo hi x| = dzMag lo hi |x| := by
  rw [deadZone1_eq, abs_mul, signumQ_abs, Rat.mul_one, abs_of_nonneg (dzMag_range h).1]

/-- zero inside the lower threshold -/
theorem deadZone_inside (lo hi x : Rat) (h0 : 0 ≤ lo) (h : lo < hi) (hx : |x| ≤ lo) : deadZone1 lo hi x = 0 := by
  rw [deadZone1_eq, dzMag_inside hx, Rat.zero_mul]

/-- magnitude at most one -/
theorem deadZone_le_one (lo hi x : Rat) (h : lo < hi) : |deadZone1 lo hi x| ≤ 1 :=
  abs_deadZone1 x h ▸ (dzMag_range h).2

/-- the sign of the input is preserved (the output never points the other way) -/
theorem deadZone_sign (lo hi x : Rat) (h : lo < hi) : 0 ≤ deadZone1 lo hi x * x := by
  rw [deadZone1_eq, Rat.mul_assoc, signumQ_mul_self]
  exact Rat.mul_nonneg (dzMag_range h).1 (abs_nonneg x)

/-- full scale at and beyond the upper threshold -/
theorem deadZone_saturates (lo hi x : Rat) (h : lo < hi) (hx : hi ≤ |x|) : |deadZone1 lo hi x| = 1 := by
  rw [abs_deadZone1 x h, dzMag_saturates h hx]

/-- monotone -/
theorem deadZone_mono (lo hi x y : Rat) (h : lo < hi) (hxy : x ≤ y) : deadZone1 lo hi x ≤ deadZone1 lo hi y := by
  rcases le_or_gt 0 x with hx | hx
  · rw [deadZone1_of_nonneg hx, deadZone1_of_nonneg (hx.trans hxy)]
    exact dzMag_mono h hxy
  · rw [deadZone1_of_neg hx]
    rcases le_or_gt 0 y with hy | hy
    · rw [deadZone1_of_nonneg hy]
      exact (neg_nonpos.2 (dzMag_range h).1).trans (dzMag_range h).1
    · rw [deadZone1_of_neg hy]
      exact Rat.neg_le_neg (dzMag_mono h (Rat.neg_le_neg hxy))

theorem V3.scale_scale (a : V3) (s t : Rat) : (a.scale s).scale t = a.scale (s * t) := by
  simp only [V3.scale, Rat.mul_assoc]

theorem V3.scale_zero (a : V3) : a.scale 0 = V3.zero := by
  simp only [V3.scale, Rat.mul_zero]; rfl

/-- the radial dead zone as one scaling; at length 0 the factor is Lean's `x / 0 = 0`, where the model returns zero -/
theorem deadZoneRadial_eq {len : V3 → Rat} {lo hi : Rat} {v : V3} (hl : 0 ≤ len v) :
    deadZoneRadial len lo hi v = v.scale (dzMag lo hi (len v) / len v) := by
  rw [deadZoneRadial]
  cases hz : len v == 0
  · -- the two scalings combine
    rw [if_neg Bool.false_ne_true, deadZone1_of_nonneg hl, V3.scale_scale, one_div_mul_eq_div]
  · -- `==` on `Rat` is `decide (· = ·)`
    rw [if_pos rfl, of_decide_eq_true hz, div_zero, V3.scale_zero]

/-- radial dead zone, for any length function with `len v ≥ 0`: the output is the input direction scaled by a factor in
    [0, 1 / len v · 1]; in particular it is zero inside the lower threshold and has length `dzMag (len v) ≤ 1` -/
theorem deadZoneRadial_spec (len : V3 → Rat) (lo hi : Rat) (v : V3) (h0 : 0 ≤ lo) (h : lo < hi) (hl : 0 ≤ len v) :
    (len v ≤ lo → deadZoneRadial len lo hi v = V3.zero)
    ∧ (∃ k : Rat, 0 ≤ k ∧ deadZoneRadial len lo hi v = v.scale k ∧ k * len v ≤ 1) := by
  rw [deadZoneRadial_eq hl]
  refine ⟨fun hin => by rw [dzMag_inside hin, zero_div, V3.scale_zero], _, Rat.div_nonneg (dzMag_range h).1 hl, rfl, ?_⟩
  -- the factor times the length is `dzMag (len v)` again (also at length 0, which lies inside the lower threshold)
  rw [div_mul_cancel_of_imp fun hz => dzMag_inside (hz.trans_le h0)]
  exact (dzMag_range h).2

/-! ### ExponentialCurve (natural exponent n > 0) -/

theorem expCurve_sign (x : Rat) (n : Nat) : 0 ≤ expCurve1 x n * x := by
  rw [expCurve1, absQ_eq, Rat.mul_assoc, signumQ_mul_self]
  exact Rat.mul_nonneg (Rat.pow_nonneg (abs_nonneg x)) (abs_nonneg x)

theorem expCurve_fixed (n : Nat) (hn : 0 < n) : expCurve1 0 n = 0 ∧ expCurve1 1 n = 1 ∧ expCurve1 (-1) n = -1 := by
  unfold expCurve1 absQ signumQ
  refine ⟨?_, ?_, ?_⟩
  · simp [Nat.pos_iff_ne_zero.mp hn]
  · norm_num
  · norm_num

/-! ### zero ↦ zero, dimension changes only as documented -/

theorem swizzle_isZero (s : Swz) {v : Value} (hz : isZero v) : isZero (swizzleV s v) := by
  cases v with
  | bool b => cases isZero_bool hz; cases s <;> rfl
  | _ => cases hz; cases s <;> rfl

theorem zero_to_zero (v : Value) (hz : isZero v) (lo hi : Rat) (h0 : 0 ≤ lo) (h : lo < hi) (n1 n2 n3 : Nat) (hn : 0 < n1 ∧ 0 < n2 ∧ 0 < n3)
    (nx ny nz : Bool) (fx fy fz d : Rat) (s : Swz) :
    isZero (negateV nx ny nz v) ∧ isZero (scaleV fx fy fz v) ∧ isZero (swizzleV s v) ∧ isZero (deadZoneAxialV lo hi v)
    ∧ isZero (expV n1 n2 n3 v) ∧ isZero (deltaScaleV d v) := by
  have neg0 (b : Bool) : (if b then -(0 : Rat) else 0) = 0 := by rw [Rat.neg_zero, ite_self]
  have dz0 : deadZone1 lo hi 0 = 0 := deadZone_inside lo hi 0 h0 h (abs_zero.trans_le h0)
  rw [negateV_eq, scaleV_eq, deadZoneAxialV_eq, expV_eq, deltaScaleV_eq]
  refine ⟨mapV_isZero ?_ ?_ ?_ hz, mapV_isZero ?_ ?_ ?_ hz, swizzle_isZero s hz, mapV_isZero dz0 dz0 dz0 hz,
    mapV_isZero (expCurve_fixed n1 hn.1).1 (expCurve_fixed n2 hn.2.1).1 (expCurve_fixed n3 hn.2.2).1 hz,
    mapV_isZero ?_ ?_ ?_ hz⟩
  exacts [neg0 nx, neg0 ny, neg0 nz, Rat.zero_mul fx, Rat.zero_mul fy, Rat.zero_mul fz, Rat.zero_mul d, Rat.zero_mul d, Rat.zero_mul d]

/-- Bool becomes 1D; every other dimension is kept by Negate, Scale, DeadZone, ExponentialCurve, DeltaScale -/
theorem dims_kept (v : Value) (nx ny nz : Bool) (fx fy fz lo hi d : Rat) (n1 n2 n3 : Nat) :
    (negateV nx ny nz v).dim = v.promote.dim ∧ (scaleV fx fy fz v).dim = v.promote.dim
    ∧ (deadZoneAxialV lo hi v).dim = v.promote.dim ∧ (expV n1 n2 n3 v).dim = v.promote.dim
    ∧ (deltaScaleV d v).dim = v.promote.dim := by
  rw [negateV_eq, scaleV_eq, deadZoneAxialV_eq, expV_eq, deltaScaleV_eq]
  exact ⟨mapV_dim .., mapV_dim .., mapV_dim .., mapV_dim .., mapV_dim ..⟩

/-- swizzle promotion: 1D (and Bool) input becomes 2D or 3D exactly when its axis moves to Y or Z -/
theorem swizzle_dims (s : Swz) (x : Rat) :
    (swizzleV s (.a1 x)).dim = (match s with | .yxz | .zxy => .a2 | .zyx | .yzx => .a3 | .xzy => .a1) := by
  cases s <;> rfl

/-- `value.abs().powf(e).copysign(value)` over the reals, for exponents that are not natural numbers -/
noncomputable def expReal (x e : ℝ) : ℝ := if x < 0 then -(|x| ^ e) else |x| ^ e

/-- 0 and ±1 are fixed points of the curve for **every** non-zero real exponent — which is why the exact model
    (`Mod.expFrac`: the promoted input itself) is right on the inputs whose components are 0, 1 or −1, the only ones the
    correspondence sends with such exponents -/
theorem expCurve_fixed_real (e : ℝ) (he : e ≠ 0) :
    expReal 0 e = 0 ∧ expReal 1 e = 1 ∧ expReal (-1) e = -1 := by
  refine ⟨?_, ?_, ?_⟩
  · rw [expReal, if_neg (lt_irrefl 0), abs_zero, Real.zero_rpow he]
  · rw [expReal, if_neg (lt_asymm Real.zero_lt_one), abs_one, Real.one_rpow]
  · rw [expReal, if_pos (neg_neg_of_pos Real.zero_lt_one), abs_neg, abs_one, Real.one_rpow]

/-- sign is preserved for every real exponent -/
theorem expCurve_sign_real (x e : ℝ) : 0 ≤ expReal x e * x := by
  have hp : 0 ≤ |x| ^ e := Real.rpow_nonneg (abs_nonneg x) e
  unfold expReal
  split
  · next h =>
    rw [neg_mul_comm]
    exact mul_nonneg hp (neg_nonneg.2 h.le)
  · next h => exact mul_nonneg hp (not_lt.1 h)

/-- on natural exponents the real curve is the model's `expCurve1` -/
theorem expReal_nat (x : ℚ) (n : ℕ) : expReal (x : ℝ) (n : ℝ) = ((expCurve1 x n : ℚ) : ℝ) := by
  -- both sides are `if x < 0 then -|x| ^ n else |x| ^ n` once the sign factor is multiplied in and the casts are pushed down
  rw [expReal, expCurve1, absQ_eq, signumQ, mul_ite, Rat.mul_neg, Rat.mul_one, Real.rpow_natCast,
    apply_ite (Rat.cast (K := ℝ))]
  simp only [Rat.cast_lt_zero, Rat.cast_neg, Rat.cast_pow, Rat.cast_abs]

/-! ### DeltaLerp (speed ≥ 0, delta ≥ 0) -/

/-- a number lies between two others -/
def between (a b x : Rat) : Prop := (a ≤ x ∧ x ≤ b) ∨ (b ≤ x ∧ x ≤ a)

theorem lerp_between {a b s : Rat} (h0 : 0 ≤ s) (h1 : s ≤ 1) : between a b (a * (1 - s) + b * s) := by
  -- the combination of `c` with itself is `c`, and it is monotone in both arguments
  have e (c : Rat) : c * (1 - s) + c * s = c := by rw [← Rat.mul_add, Rat.sub_add_cancel, Rat.mul_one]
  have h1' := (Rat.le_iff_sub_nonneg _ _).1 h1
  rcases le_total a b with h | h
  · exact .inl ⟨(e a).symm.trans_le (Rat.add_le_add_left.2 (Rat.mul_le_mul_of_nonneg_right h h0)),
      (Rat.add_le_add_right.2 (Rat.mul_le_mul_of_nonneg_right h h1')).trans_eq (e b)⟩
  · exact .inr ⟨(e b).symm.trans_le (Rat.add_le_add_right.2 (Rat.mul_le_mul_of_nonneg_right h h1')),
      (Rat.add_le_add_left.2 (Rat.mul_le_mul_of_nonneg_right h h0)).trans_eq (e a)⟩

theorem between_self {a b : Rat} : between a b b :=
  (le_total a b).imp (fun h => ⟨h, le_rfl⟩) (fun h => ⟨le_rfl, h⟩)

/-- the output always lies between the previous output and the current input, in every axis, for every delta
    (D4 fix: the interpolation factor is clamped to 1) -/
theorem deltaLerp_between (speed : Rat) (prev : V3) (t : Tick) (v : Value) (hs : 0 ≤ speed) (hd : 0 ≤ t.delta) :
    let out := (deltaLerpStep speed prev t v).1
    let tgt := v.promote.as3
    between prev.x tgt.x out.x ∧ between prev.y tgt.y out.y ∧ between prev.z tgt.z out.z := by
  simp only [deltaLerpStep]
  split
  · exact ⟨between_self, between_self, between_self⟩
  · rw [minQ_eq]
    have hα0 : 0 ≤ min (t.delta * speed) 1 := le_min (Rat.mul_nonneg hd hs) zero_le_one
    have hα1 : min (t.delta * speed) 1 ≤ 1 := min_le_right _ _
    exact ⟨lerp_between hα0 hα1, lerp_between hα0 hα1, lerp_between hα0 hα1⟩

/-- it reaches the input once close: within the snap distance the output *is* the input -/
theorem deltaLerp_snaps (speed : Rat) (prev : V3) (t : Tick) (v : Value)
    (h : (prev.sub v.promote.as3).normSq < Gen.dlerpSnapEps) :
    deltaLerpStep speed prev t v = (v.promote.as3, v.promote) := by
  rw [deltaLerpStep, if_pos h]

theorem promote_dim_ne (v : Value) : v.promote.dim ≠ .bool := by cases v <;> nofun

/-- vectors without components beyond a (numeric) dimension are closed under interpolation -/
theorem lerp3_fits {d : Dim} (hd : d ≠ .bool) {a b : V3} (s : Rat) (ha : (Value.ofV3 a d).as3 = a)
    (hb : (Value.ofV3 b d).as3 = b) : (Value.ofV3 (lerp3 a b s) d).as3 = lerp3 a b s := by
  -- the components beyond `d` are zero in `a` and `b`, and their combination is zero again
  have z : (0 : Rat) * (1 - s) + 0 * s = 0 := by rw [Rat.zero_mul, Rat.zero_mul, Rat.add_zero]
  rw [← ha, ← hb]
  cases d with
  | bool => exact absurd rfl hd
  | a1 => exact congrArg₂ (V3.mk _) z.symm z.symm
  | a2 => exact congrArg (V3.mk _ _) z.symm
  | a3 => rfl

/-- the modifier's memory *is* its previous output: after every step the stored vector equals the returned value (read as
    3-D), and it has no component beyond the value's dimension — so `prev` in `deltaLerp_between` is "the previous output"
    along every history of inputs of one dimension (a snap that did not store the target would break exactly this) -/
theorem deltaLerp_state_is_output (speed : Rat) (prev : V3) (t : Tick) (v : Value)
    (hprev : (Value.ofV3 prev v.promote.dim).as3 = prev) :
    let r := deltaLerpStep speed prev t v
    r.2.as3 = r.1 ∧ (Value.ofV3 r.1 v.promote.dim).as3 = r.1 ∧ r.2.dim = v.promote.dim := by
  simp only [deltaLerpStep]
  split
  · exact ⟨rfl, Value.ofV3_fits _, rfl⟩
  · have := lerp3_fits (promote_dim_ne v) (minQ (t.delta * speed) 1) hprev (Value.ofV3_fits _)
    exact ⟨this, this, Value.ofV3_dim _ _⟩

/-- history form of "the output lies between the previous output and the current input": two consecutive applications to
    inputs of the same dimension -/
theorem deltaLerp_between_outputs (speed : Rat) (prev : V3) (t1 t2 : Tick) (v1 v2 : Value)
    (hdim : v1.promote.dim = v2.promote.dim) (hprev : (Value.ofV3 prev v1.promote.dim).as3 = prev)
    (hs : 0 ≤ speed) (hd : 0 ≤ t2.delta) :
    let r1 := deltaLerpStep speed prev t1 v1
    let r2 := deltaLerpStep speed r1.1 t2 v2
    between r1.2.as3.x v2.promote.as3.x r2.2.as3.x ∧ between r1.2.as3.y v2.promote.as3.y r2.2.as3.y
      ∧ between r1.2.as3.z v2.promote.as3.z r2.2.as3.z := by
  intro r1 r2
  have h1 := deltaLerp_state_is_output speed prev t1 v1 hprev
  have h2 := deltaLerp_state_is_output speed r1.1 t2 v2 (by rw [← hdim]; exact h1.2.1)
  rw [h1.1, h2.1]
  exact deltaLerp_between speed r1.1 t2 v2 hs hd

/-- the hypotheses are met by the initial memory (zero) and every input -/
example (v : Value) : (Value.ofV3 V3.zero v.promote.dim).as3 = V3.zero := by
  cases v <;> rfl

/-- D4 (fixed by 4a1b141): without the clamp the output overshoots when delta * speed > 1 -/
theorem legacy_overshoot : ¬ between (0 : Rat) 1 ((0 : Rat) * (1 - (1/4) * 8) + 1 * ((1/4) * 8)) := by
  unfold between; decide +kernel

end BEI.Props.C18
