/-
  C05 — A consuming action hides exactly its contributing inputs from later actions (same and other contexts,
  including bindings that require a modifier key it used); nothing is hidden otherwise; nothing stays hidden in the
  next frame; earlier actions are never affected.
-/
import BEI.Proofs.Update
namespace BEI.Props.C05

/-- a masked input reads as inactive -/
theorem hidden_reads_inactive (r : Reader) (j : Input) (h : hiddenBy r.consumed r.device j = true) :
    r.value j = inactive j := by
  rw [Reader.value_eq, if_pos h]

theorem intersects_union_left (a b c : ModKeys) (h : a.intersects c = true) : (a.union b).intersects c = true := by
  rw [ModKeys.intersects_union, h, Bool.true_or]

theorem intersects_union_right (a b c : ModKeys) (h : b.intersects c = true) : (a.union b).intersects c = true := by
  rw [ModKeys.intersects_union, h, Bool.or_true]

/-- (1a) consuming `i` masks every input it hides (read through the same gamepad setting) -/
theorem consume_hides (r : Reader) (i j : Input) (h : hides i j = true) :
    hiddenBy (r.consume i).consumed (r.consume i).device j = true := by
  rw [Reader.consume_device, Reader.hiddenBy_consume, Reader.hidesAt_self, h, Bool.or_true]

/-- (1b) consuming never unmasks anything (the consumed set only grows within a frame) -/
theorem consume_monotone (r : Reader) (i j : Input) (dev : Device) (h : hiddenBy r.consumed dev j = true) :
    hiddenBy (r.consume i).consumed dev j = true := by
  rw [Reader.hiddenBy_consume, h, Bool.true_or]

/-- (1c) consuming `i` changes nothing for an input it does not hide -/
theorem consume_keeps (r : Reader) (i j : Input) (h : hides i j = false) :
    (r.consume i).value j = r.value j := by
  rw [Reader.value_consume_self, h]
  rfl

/-- a gamepad input consumed under one gamepad setting is not hidden from a context with a different setting -/
theorem consume_pad_other_device (r : Reader) (b : Nat) (d' : Device) (hd : d' ≠ r.device) :
    ((r.consume (.padBtn b)).setGamepad d').value (.padBtn b) = (r.setGamepad d').value (.padBtn b) := by
  have hne : (r.device == d') = false := beq_false_of_ne (Ne.symm hd)
  rw [Reader.value_consume, C17.hidesAt, hne, Bool.and_false]
  rfl

/-- (2) what one action consumes: if (and only if) it consumes input and ends the frame in a state other than None,
    exactly the inputs that contributed to it (C04); afterwards every input hidden by one of them reads inactive
    through the same reader, and every other input reads exactly as before. -/
theorem update_consumes (ab : ActionBind) (r : Reader) (av : ActionsView) (t : Tick) (es : List Nat)
    (o : ActionBind.Out) (h : ab.update r av t es = some o) :
    ∃ d, o.actions.get? ab.action = some d ∧
      o.consumed = (if ab.consume && d.state != .none
                    then (contributing (evalAll r av t ab.bindings)).map (·.input) else [])
      ∧ o.reader = o.consumed.foldl Reader.consume r
      ∧ (∀ i ∈ o.consumed, ∀ j, hides i j = true → o.reader.value j = inactive j)
      ∧ (∀ j, (∀ i ∈ o.consumed, hides i j = false) → o.reader.value j = r.value j) := by
  obtain ⟨old, hc⟩ := ab.update_char h
  refine ⟨_, hc.new_eq, by rw [ActionData.update_state]; exact hc.consumed, hc.reader, ?_, ?_⟩
  · intro i hi j hh
    rw [hc.reader, Reader.value_foldl_consume, if_pos (List.any_eq_true.mpr ⟨i, hi, hh⟩)]
  · intro j hj
    rw [hc.reader, Reader.value_foldl_consume, List.any_eq_false.mpr fun i hi => ne_true_of_eq_false (hj i hi)]
    rfl

/-- nothing is hidden when the action's state is None or the action does not consume -/
theorem nothing_consumed (ab : ActionBind) (r : Reader) (av : ActionsView) (t : Tick) (es : List Nat)
    (o : ActionBind.Out) (h : ab.update r av t es = some o) (d : ActionData)
    (hd : o.actions.get? ab.action = some d) (hn : ab.consume = false ∨ d.state = .none) : o.reader = r := by
  obtain ⟨d', hd', hcons, hreader, _⟩ := update_consumes ab r av t es o h
  rw [hd] at hd'; cases hd'
  rw [hreader, hcons]
  rcases hn with hn | hn <;> simp [hn]

/-- (3) nothing stays hidden in the next frame: `update_state` empties the consumed set (only the UI mouse flag is
    recomputed, see C16) -/
theorem reset_unhides (r : Reader) (dev : Device) (j : Input) : hiddenBy r.updateState.consumed dev j = false := by
  cases j <;> rfl

/-- (4) masking persists for everything evaluated later in the frame: every later `ActionBind::update` only adds to
    the consumed set (so an input hidden once stays hidden until the reset), and switching the gamepad selection at
    the start of a context does not touch the set -/
theorem later_updates_keep_hidden (ab : ActionBind) (r : Reader) (av : ActionsView) (t : Tick) (es : List Nat)
    (o : ActionBind.Out) (h : ab.update r av t es = some o) (j : Input) (dev : Device)
    (hj : hiddenBy r.consumed dev j = true) : hiddenBy o.reader.consumed dev j = true :=
  ActionBind.update_reader_inv (fun r i => consume_monotone r i j dev) h hj

theorem setGamepad_consumed (r : Reader) (d : Device) : (r.setGamepad d).consumed = r.consumed := rfl

/-- (5) earlier actions are never affected: the result of an action depends only on the reader as it was at its turn —
    running further actions afterwards cannot change what was already computed (the evaluation is a left fold) -/
theorem earlier_unaffected (r : Reader) (av : ActionsView) (t : Tick) (es : List Nat) (ab : ActionBind)
    (rest rest' : List ActionBind) :
    (ContextInstance.loopActions r av t es (ab :: rest)).map (fun x => (x.1.head?.map (·.action), x.2.2.2.1.take (match ab.update r av t es with | some o => o.deliveries.length | none => 0)))
    = (ContextInstance.loopActions r av t es (ab :: rest)).map (fun x => (x.1.head?.map (·.action), match ab.update r av t es with | some o => o.deliveries | none => [])) := by
  simp only [ContextInstance.loopActions]
  cases hab : ab.update r av t es with
  | none => rfl
  | some o =>
    simp only
    cases hr : ContextInstance.loopActions o.reader o.actions t es rest with
    | none => rfl
    | some x =>
      simp

/-- masking survives a whole action loop … -/
theorem loopActions_keeps_hidden (t : Tick) (es : List Nat) (j : Input) (dev : Device) :
    ∀ (bs : List ActionBind) (r : Reader) (av : ActionsView) bs' r' av' dl lg,
      ContextInstance.loopActions r av t es bs = some (bs', r', av', dl, lg) →
      hiddenBy r.consumed dev j = true → hiddenBy r'.consumed dev j = true :=
  fun _ _ _ _ _ _ _ _ => ContextInstance.loopActions_reader_inv (fun r i => consume_monotone r i j dev)

/-- … a whole context instance (selecting its gamepad does not touch the consumed set) … -/
theorem instance_keeps_hidden (ci : ContextInstance) (r : Reader) (t : Tick) (es : List Nat) (o : ContextInstance.Out)
    (h : ci.update r t es = some o) (j : Input) (dev : Device) (hj : hiddenBy r.consumed dev j = true) :
    hiddenBy o.reader.consumed dev j = true :=
  ContextInstance.update_reader_inv (fun r i => consume_monotone r i j dev) (fun _ _ h => h) h hj

theorem updateExclusive_keeps_hidden (t : Tick) (j : Input) (dev : Device) :
    ∀ (is : List (Nat × ContextInstance)) (r : Reader) is' r' dl lg,
      Registry.updateExclusive r t is = some (is', r', dl, lg) →
      hiddenBy r.consumed dev j = true → hiddenBy r'.consumed dev j = true :=
  fun _ _ _ _ _ _ => Registry.updateExclusive_reader_inv (fun r i => consume_monotone r i j dev) (fun _ _ h => h)

/-- (6) … and the rest of the frame: once an input is hidden it reads as inactive for every action evaluated later in
    that frame — later actions of the same context, later instances of the same type, and every lower-priority context -/
theorem registry_keeps_hidden (t : Tick) (j : Input) (dev : Device) :
    ∀ (reg : Registry) (r : Reader) (o : Registry.Out), Registry.update r t reg = some o →
      hiddenBy r.consumed dev j = true → hiddenBy o.reader.consumed dev j = true :=
  fun _ _ _ => Registry.update_reader_inv (fun r i => consume_monotone r i j dev) (fun _ _ h => h)

/-- non-vacuity: Ctrl+A consumed hides Ctrl+Shift+B (shares Ctrl) and A, but not plain B -/
example :
    let ctrl : ModKeys := { control := true }
    let cs : ModKeys := { control := true, shift := true }
    hides (.key 0 ctrl) (.key 1 cs) = true ∧ hides (.key 0 ctrl) (.key 0 {}) = true ∧ hides (.key 0 ctrl) (.key 1 {}) = false := by
  decide

/-- what a hidden input contributes: a binding of a later action that names an input hidden in the reader at that action's
    turn is evaluated on the *inactive* value of that input — its modifiers run on zero and its conditions on their result,
    exactly as if the device were at rest (the binding is not skipped, C12; whether it is hidden is decided by
    `update_consumes` / `registry_keeps_hidden`) -/
theorem hidden_binding_evaluates_inactive (r : Reader) (av : ActionsView) (t : Tick) (b : InputBind) (e : Ev)
    (h : (evalInput r av t b).2.1 = some e) (hj : hiddenBy r.consumed r.device b.input = true) :
    e.tracker.value = runMods av t b.mods (inactive b.input)
    ∧ e.results = runConds av t b.conds (runMods av t b.mods (inactive b.input)) := by
  have hs := evalInput_spec h
  have hv := hs.value
  rw [hidden_reads_inactive r b.input hj] at hv
  exact ⟨hv, by rw [hs.results, hv]⟩

/-- every evaluated input of an action comes from one of its bindings by `evalInput` -/
theorem evalAll_mem (r : Reader) (av : ActionsView) (t : Tick) (bs : List InputBind) (e : Ev) (he : e ∈ evalAll r av t bs) :
    ∃ b ∈ bs, (evalInput r av t b).2.1 = some e :=
  List.mem_filterMap.mp he

end BEI.Props.C05
