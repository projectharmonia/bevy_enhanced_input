/-
  C12 — Every condition and modifier is invoked exactly once per frame, in order: per input (past the initial
  held-input suppression) its modifiers then its conditions in declaration order, inputs in binding order, then the
  action-level modifiers, then the action-level conditions — independent of results, blockers, consumption, state and
  activity (no hypothesis about any of them appears below).
-/
import BEI.Proofs.Update
import BEI.Model.Conditions
namespace BEI.Props.C12

/-- the canonical invocation list of one action for a reader `r` (only its raw input and gamepad matter) -/
def canonIds (r : Reader) (ab : ActionBind) : List Nat :=
  ab.bindings.flatMap (fun b => if suppressed r b then [] else b.mods.map (·.id) ++ b.conds.map (·.id))
    ++ ab.mods.map (·.id) ++ ab.conds.map (·.id)

/-- (1) one action: the log of `ActionBind::update` is exactly the canonical list, each entry once -/
theorem invocation_log_canonical (ab : ActionBind) (r : Reader) (av : ActionsView) (t : Tick) (es : List Nat)
    (o : ActionBind.Out) (h : ab.update r av t es = some o) :
    o.log.map Inv.id = canonIds r ab := by
  obtain ⟨_, hc⟩ := ab.update_char h
  exact hc.log

/-- the objects stay in place: after the update the action holds the same modifiers and conditions (same ids, same
    order, with their updated private state), so stateful ones are driven again next frame -/
theorem objects_persist (ab : ActionBind) (r : Reader) (av : ActionsView) (t : Tick) (es : List Nat)
    (o : ActionBind.Out) (h : ab.update r av t es = some o) :
    o.bind.mods.map (·.id) = ab.mods.map (·.id) ∧ o.bind.conds.map (·.id) = ab.conds.map (·.id)
    ∧ o.bind.bindings.map (fun b => (b.input, b.mods.map (·.id), b.conds.map (·.id)))
        = ab.bindings.map (fun b => (b.input, b.mods.map (·.id), b.conds.map (·.id))) := by
  obtain ⟨_, hc⟩ := ab.update_char h
  refine ⟨hc.mods, hc.conds, ?_⟩
  rw [hc.bindings, List.map_map]
  exact List.map_congr_left fun b _ => evalInput_ids r av t b

/-- the canonical list depends on the reader only through the raw device state and the gamepad selection -/
theorem canonIds_congr (r r' : Reader) (h1 : r.raw = r'.raw) (h2 : r.device = r'.device) (ab : ActionBind) :
    canonIds r ab = canonIds r' ab := by
  have hs : suppressed r = suppressed r' := by
    funext b; rw [suppressed, suppressed, Reader.activeUnconsumed_congr h1 h2]
  rw [canonIds, canonIds, hs]

/-- (2) a whole context instance: the log is the concatenation of the canonical lists of its actions in binding order;
    consumption by earlier actions (or earlier contexts) changes nothing -/
theorem instance_log_canonical (t : Tick) (es : List Nat) :
    ∀ (bs : List ActionBind) (r : Reader) (av : ActionsView) bs' r' av' dl lg,
      ContextInstance.loopActions r av t es bs = some (bs', r', av', dl, lg) →
      lg.map Inv.id = bs.flatMap (canonIds r)
      ∧ (∀ ab, canonIds r' ab = canonIds r ab) := by
  intro bs r av bs' r' av' dl lg h
  induction h using ContextInstance.loopActions_induction with
  | nil => simp
  | @cons r _ ab _ o _ _ _ _ _ ho _ ih =>
    have hcan : canonIds o.reader = canonIds r := by
      funext x; rw [ActionBind.update_reader ho]
      exact canonIds_congr _ _ (Reader.foldl_consume_raw _ r) (Reader.foldl_consume_device _ r) x
    rw [hcan] at ih
    exact ⟨by simp only [List.map_append, List.flatMap_cons, invocation_log_canonical ab _ _ _ _ _ ho, ih.1], ih.2⟩

/-- non-vacuity: a failing blocker in front does not stop the later condition from being invoked, and an inactive
    input still drives its condition -/
example :
    let b : InputBind := { input := .key 0 {}, ignored := false, conds := [Cond.scripted 5 Kind.explicit [AState.none]] }
    let cs : List Cond := [Cond.scripted 7 Kind.blocker [AState.none], Cond.scripted 8 Kind.explicit [AState.fired]]
    let ab : ActionBind := { action := 0, dim := .bool, consume := true, accum := .cumulative, conds := cs, bindings := [b] }
    (match ab.update { raw := {} } [(0, ActionData.new .bool)] ⟨0, 1⟩ [0] with
     | some o => o.log.map Inv.id
     | none => []) = [5, 7, 8] := by
  decide

/-! ### the whole frame -/

/-- the canonical invocation list of one context instance in a frame with raw device state `raw` -/
def instCanon (raw : RawInput) (ci : ContextInstance) : List Nat :=
  ci.bindings.flatMap (canonIds { raw := raw, device := ci.gamepad })

/-- … and of a whole registry: groups in registry order, the instances of an exclusive group in their order -/
def regCanon (raw : RawInput) : Registry → List Nat
  | [] => []
  | .exclusive _ is :: rest => is.flatMap (fun p => instCanon raw p.2) ++ regCanon raw rest
  | .shared _ _ ci :: rest => instCanon raw ci ++ regCanon raw rest

theorem instance_log {ci : ContextInstance} {r : Reader} {t : Tick} {es : List Nat} {o : ContextInstance.Out}
    (h : ci.update r t es = some o) : o.log.map Inv.id = instCanon r.raw ci ∧ o.reader.raw = r.raw := by
  refine ⟨?_, ContextInstance.update_reader_inv (P := (·.raw = r.raw)) (fun x i hx => (Reader.consume_raw x i).trans hx)
    (fun _ _ hx => hx) h rfl⟩
  obtain ⟨_, _, hl, _⟩ := ContextInstance.update_eq_some.mp h
  rw [(instance_log_canonical t es _ _ _ _ _ _ _ _ hl).1]
  -- `canonIds` reads the reader through the physical state only: raw input and gamepad selection
  rfl

theorem updateExclusive_log {t : Tick} {is : List (Nat × ContextInstance)} {r : Reader} {is' r' dl lg}
    (h : Registry.updateExclusive r t is = some (is', r', dl, lg)) :
    lg.map Inv.id = is.flatMap (fun p => instCanon r.raw p.2) ∧ r'.raw = r.raw := by
  induction h using Registry.updateExclusive_induction with
  | nil => simp
  | cons ho _ ih =>
    obtain ⟨hl, hr⟩ := instance_log ho
    exact ⟨by simp only [List.map_append, List.flatMap_cons, hl, ih.1, hr], by rw [ih.2, hr]⟩

/-- **(3) the whole frame**: the invocation log of the frame update is the canonical list of the registry — every group in
    registry order, every instance, every action in binding order, per input modifiers then conditions (unless still under
    the initial suppression), then the action-level ones; each exactly once.  It depends on the raw device state and the
    gamepad selections only: not on results, blockers, consumption or states. -/
theorem registry_log_canonical (t : Tick) :
    ∀ (reg : Registry) (r : Reader) (o : Registry.Out), Registry.update r t reg = some o →
      o.log.map Inv.id = regCanon r.raw reg ∧ o.reader.raw = r.raw := by
  intro reg r o h
  induction h using Registry.update_induction with
  | nil => simp [regCanon]
  | exclusive hex _ ih =>
    obtain ⟨hl, hr⟩ := updateExclusive_log hex
    exact ⟨by simp only [List.map_append, regCanon, hl, ih.1, hr], by rw [ih.2, hr]⟩
  | shared hctx _ ih =>
    obtain ⟨hl, hr⟩ := instance_log hctx
    exact ⟨by simp only [List.map_append, regCanon, hl, ih.1, hr], by rw [ih.2, hr]⟩

end BEI.Props.C12
