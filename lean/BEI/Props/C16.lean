/-
  C16 — While the UI is interacted with, mouse input is masked and nothing else is.
  `RawInput.uiActive` is "some `Interaction` component is not `None`" (that `bevy_ui` sets these components correctly is
  outside the model: the harness sets them directly — partly partial).
-/
import BEI.Proofs.Frame
namespace BEI.Props.C16

/-- the reader at the start of a frame (`update_state` has run) -/
def start (raw : RawInput) (dev : Device) : Reader := ({ raw := raw, device := dev } : Reader).updateState

/-- the flag is recomputed from scratch on every frame: it is exactly "some element is hovered or pressed now" -/
theorem flag_recomputed (r : Reader) : r.updateState.consumed.uiWantsMouse = r.raw.uiActive := rfl

theorem flag_forgets_history (r : Reader) (c : Consumed) :
    ({ r with consumed := c } : Reader).updateState = r.updateState := rfl

/-- whatever the reader has been through, while the flag is set every mouse-sourced input reads inactive under every
    gamepad selection -/
theorem masked_reader (r : Reader) (h : r.consumed.uiWantsMouse = true) (dev : Device) (b : Nat) (m : ModKeys) :
    (r.setGamepad dev).value (.mbtn b m) = .bool false
    ∧ (r.setGamepad dev).value (.motion m) = .a2 0 0
    ∧ (r.setGamepad dev).value (.wheel m) = .a2 0 0 := by
  simp [Reader.setGamepad, Reader.value, h]

/-- (1) in a frame with an interacted UI element every mouse-sourced input — buttons, motion, wheel, with or without
    modifier keys — reads as inactive, for every context (any gamepad selection) -/
theorem ui_masks_mouse (raw : RawInput) (dev : Device) (h : raw.uiActive = true) (b : Nat) (m : ModKeys) :
    (start raw dev).value (.mbtn b m) = .bool false
    ∧ (start raw dev).value (.motion m) = .a2 0 0
    ∧ (start raw dev).value (.wheel m) = .a2 0 0 :=
  masked_reader (start raw dev) h dev b m

/-- (2) keyboard and gamepad inputs read exactly as they would without the UI -/
theorem ui_keeps_rest (raw : RawInput) (dev : Device) (k : Nat) (m : ModKeys) (b x : Nat) :
    (start raw dev).value (.key k m) = (start { raw with uiActive := false } dev).value (.key k m)
    ∧ (start raw dev).value (.padBtn b) = (start { raw with uiActive := false } dev).value (.padBtn b)
    ∧ (start raw dev).value (.padAxis x) = (start { raw with uiActive := false } dev).value (.padAxis x) :=
  ⟨rfl, rfl, rfl⟩

/-- (3) in a frame with no interacted element nothing is masked: mouse inputs read their physical state -/
theorem no_ui_no_mask (raw : RawInput) (dev : Device) (h : raw.uiActive = false) (b : Nat) (m : ModKeys) :
    (start raw dev).value (.mbtn b m) = .bool (raw.mouseButtons.contains b && (start raw dev).modsDown m)
    ∧ (start raw dev).value (.motion m) = (if (start raw dev).modsDown m then .a2 raw.motion.1 raw.motion.2 else .a2 0 0)
    ∧ (start raw dev).value (.wheel m) = (if (start raw dev).modsDown m then .a2 raw.wheel.1 raw.wheel.2 else .a2 0 0) := by
  simp only [start, Reader.updateState, Reader.value, Reader.modKeysPressed, h, ModKeys.empty_intersects]
  generalize (Reader.modsDown _ m) = bb
  cases bb <;> simp

/-- non-vacuity: hovered UI, left button and Ctrl+key pressed: the button is masked, the key is not -/
example :
    let raw : RawInput := { keys := [0, 10], mouseButtons := [0], uiActive := true }
    (start raw .any).value (.mbtn 0 {}) = .bool false ∧ (start raw .any).value (.key 0 { control := true }) = .bool true := by
  decide

/-! ### lifting to the whole frame -/

/-- A predicate on readers that `consume` and `set_gamepad` preserve is preserved by the whole frame update: the reader is
    only ever changed by those two operations while the registry is evaluated. -/
structure ReaderInv (P : Reader → Prop) : Prop where
  consume : ∀ r i, P r → P (r.consume i)
  setGamepad : ∀ r d, P r → P (r.setGamepad d)

theorem registry_inv {P : Reader → Prop} (hP : ReaderInv P) (t : Tick) :
    ∀ (reg : Registry) (r : Reader) (o : Registry.Out), Registry.update r t reg = some o → P r → P o.reader :=
  fun _ _ _ h => Registry.update_reader_inv hP.consume hP.setGamepad h

/-- the UI flag is untouched by everything the frame update does to the reader -/
theorem flagInv (b : Bool) : ReaderInv (fun r => r.consumed.uiWantsMouse = b) where
  consume r i h := (Reader.consume_uiWantsMouse r i).trans h
  setGamepad _ _ h := h

/-- the flag is constant over the frame: at every point of the evaluation it is "some element is interacted with now" -/
theorem ui_flag_constant (raw : RawInput) (t : Tick) (before : Registry) (o : Registry.Out)
    (hu : Registry.update (start raw .any) t before = some o) : o.reader.consumed.uiWantsMouse = raw.uiActive :=
  registry_inv (flagInv raw.uiActive) t before _ o hu rfl

/-- **(1) for the whole frame**: in a frame with an interacted UI element the reader every context is evaluated with —
    whatever was evaluated and consumed before it, in any registry — still masks every mouse-sourced input; split the
    registry anywhere (`before ++ after`): the reader handed to `after` masks the mouse. -/
theorem ui_masks_mouse_all_frame (raw : RawInput) (h : raw.uiActive = true) (t : Tick) (before : Registry) (o : Registry.Out)
    (hu : Registry.update (start raw .any) t before = some o) (dev : Device) (b : Nat) (m : ModKeys) :
    (o.reader.setGamepad dev).value (.mbtn b m) = .bool false
    ∧ (o.reader.setGamepad dev).value (.motion m) = .a2 0 0
    ∧ (o.reader.setGamepad dev).value (.wheel m) = .a2 0 0 :=
  masked_reader o.reader ((ui_flag_constant raw t before o hu).trans h) dev b m

/-- **(2) for every reader**: what a keyboard or gamepad binding reads does not depend on the UI flag at all -/
theorem ui_flag_irrelevant_for_keys_and_pads (r : Reader) (f : Bool) (k : Nat) (m : ModKeys) (b x : Nat) :
    let r' : Reader := { r with consumed := { r.consumed with uiWantsMouse := f } }
    r'.value (.key k m) = r.value (.key k m) ∧ r'.value (.padBtn b) = r.value (.padBtn b)
      ∧ r'.value (.padAxis x) = r.value (.padAxis x) :=
  ⟨rfl, rfl, rfl⟩

end BEI.Props.C16
