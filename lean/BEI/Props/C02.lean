/-
  C02 — Every activation episode is closed exactly once, also on deactivation.
-/
import BEI.Proofs.Mirror
namespace BEI.Props.C02

/-- episode automaton over the per-frame event lists of one (entity, action): idle, or open with the last state -/
inductive Ep where
  | idle | openOngoing | openFired
  deriving DecidableEq, Repr

/-- one frame's events drive the automaton; `none` = the list is not allowed in this state -/
def Ep.step : Ep → List EvKind → Option Ep
  | .idle, [] => some .idle
  | .idle, [.started, .ongoing] => some .openOngoing
  | .idle, [.started, .fired] => some .openFired
  | .openOngoing, [.ongoing] => some .openOngoing
  | .openOngoing, [.fired] => some .openFired
  | .openOngoing, [.canceled] => some .idle
  | .openFired, [.fired] => some .openFired
  | .openFired, [.ongoing] => some .openOngoing
  | .openFired, [.completed] => some .idle
  | _, _ => none

/-- the automaton state that corresponds to an action state -/
def Ep.ofState : AState → Ep
  | .none => .idle | .ongoing => .openOngoing | .fired => .openFired

/-- (1a) one frame: the events of the transition (extracted table) are accepted and lead to the state of the new action state -/
theorem step_accepts (p c : AState) : (Ep.ofState p).step (eventsOf p c) = some (Ep.ofState c) := by
  cases p <;> cases c <;> decide +kernel

/-- running the automaton over a history of per-frame event lists -/
def Ep.run : Ep → List (List EvKind) → Option Ep
  | s, [] => some s
  | s, evs :: rest => match s.step evs with
    | some s' => Ep.run s' rest
    | none => none

/-- the per-frame event lists of a state history starting in `p` -/
def historyEvents : AState → List AState → List (List EvKind)
  | _, [] => []
  | p, c :: rest => eventsOf p c :: historyEvents c rest

/-- (1) for **every** state history (any length) the delivered events form well-formed episodes: Started, then exactly
    one Ongoing or Fired per frame, then exactly one Canceled (last state Ongoing) or Completed (last state Fired),
    and nothing outside episodes -/
theorem episodes_wf (p : AState) (hist : List AState) :
    (Ep.ofState p).run (historyEvents p hist) = some (Ep.ofState (hist.getLast?.getD p)) := by
  induction hist generalizing p with
  | nil => rfl
  | cons c rest ih =>
    simp only [historyEvents, Ep.run, step_accepts]
    rw [ih c, List.getLast?_cons, Option.getD_some]

/-- exactly one of Ongoing / Fired on every frame inside an episode, and a terminal event exactly when leaving it -/
theorem one_progress_event (p c : AState) (hc : c ≠ .none) :
    ((eventsOf p c).filter (fun k => k == .ongoing || k == .fired)).length = 1
    ∧ (eventsOf p c).all (fun k => k != .canceled && k != .completed) = true := by
  cases c with
  | none => exact absurd rfl hc
  | _ => cases p <;> decide +kernel

theorem terminal_event (p : AState) (hp : p ≠ .none) :
    eventsOf p .none = [if p = .fired then .completed else .canceled] := by
  cases p <;> first | exact absurd rfl hp | decide +kernel

/-- (2) deactivation: the closing deliveries of one action — nothing if it rests in None, otherwise exactly one terminal
    event per affected entity (Canceled after Ongoing, Completed after Fired) with state None and the zero value of the
    action's dimension; it drives the automaton to idle -/
theorem closing_events (a : Nat) (d : ActionData) (t : Tick) (dim : Dim) (es : List Nat) :
    triggerEvents a (d.update t .none (Value.zero dim)) es =
      match d.state with
      | .none => []
      | .ongoing => es.map (fun e => mkDelivery a (d.update t .none (Value.zero dim)) .canceled e)
      | .fired => es.map (fun e => mkDelivery a (d.update t .none (Value.zero dim)) .completed e) := by
  rw [triggerEvents, ActionData.update_events]
  -- the table's entries for a transition to `none`: no event, `[canceled]`, `[completed]`
  cases d.state
  · rfl
  · exact List.flatMap_singleton _ EvKind.canceled
  · exact List.flatMap_singleton _ EvKind.completed

theorem closing_payload (a : Nat) (d : ActionData) (t : Tick) (dim : Dim) (k : EvKind) (e : Nat) :
    (mkDelivery a (d.update t .none (Value.zero dim)) k e).state = .none
    ∧ (mkDelivery a (d.update t .none (Value.zero dim)) k e).value = Value.zero dim := by
  cases k <;> exact ⟨rfl, rfl⟩

theorem closing_closes (s : AState) : (Ep.ofState s).step (eventsOf s .none) = some .idle := step_accepts s .none

/-- (3) what `trigger_removed` delivers for a whole instance: the closing events of each bound action, in binding order -/
theorem triggerRemoved_spec (ci : ContextInstance) (t : Tick) (es : List Nat) (dl : List Delivery)
    (h : ci.triggerRemoved t es = some dl) :
    ∃ ds : List ActionData, ds.length = ci.bindings.length
      ∧ (∀ i (hi : i < ci.bindings.length) (hj : i < ds.length), ci.actions.get? (ci.bindings[i]).action = some ds[i])
      ∧ dl = ((ci.bindings.zip ds).flatMap (fun p => triggerEvents p.1.action (p.2.update t .none (Value.zero p.1.dim)) es)) := by
  rw [ContextInstance.triggerRemoved_eq] at h
  obtain ⟨hall, ⟨⟩⟩ := Option.ite_none_right_eq_some.mp h
  -- the data of each bound action, which `hall` says is there
  have hget : ∀ ab ∈ ci.bindings, ci.actions.get? ab.action = some ((ci.actions.get? ab.action).getD default) :=
    fun ab hab => by obtain ⟨d, hd⟩ := Option.isSome_iff_exists.mp (hall ab hab); rw [hd]; rfl
  refine ⟨ci.bindings.map fun ab => (ci.actions.get? ab.action).getD default, List.length_map _, fun i hi hj => ?_, ?_⟩
  · rw [List.getElem_map]; exact hget _ (List.getElem_mem hi)
  · rw [List.zip_eq_zipWith, List.zipWith_map_right, List.zipWith_self, List.flatMap_map, List.flatMap_def, List.flatMap_def,
      List.map_congr_left fun ab hab => by rw [hget ab hab, Option.elim_some]]

/-- (4) removing the component closes for exactly the leaving entity: the deliveries of `remove` are the closing events
    of *its* instance addressed to that entity alone, and afterwards the lookup fails -/
theorem remove_closes (su : Setup) (st : AppState) (hreach : Reachable su st) (e c : Nat) (st' : AppState) (dl : List Delivery)
    (hhas : st.world.has e c = true) (hop : applyOp su st (.remove e c) = some (st', dl)) :
    (∃ ctx, st.reg.get c e = some ctx ∧ ctx.triggerRemoved st.tick [e] = some dl)
    ∧ st'.reg.get c e = none
    ∧ (∀ d ∈ dl, d.entity = e) := by
  rw [applyOp, if_neg (by simp [hhas, World.alive_of_has hhas])] at hop
  split at hop <;> cases hop
  exact Registry.remove_get hreach.mirror.wf ‹_›

/-- (5) a rebuild closes every holder of a shared instance (all holders receive the terminal events of every bound
    action) and installs an instance built from scratch; for an exclusive type every per-entity instance is closed for
    its own entity and replaced -/
theorem rebuild_shared_closes (reg : Registry) (mk : Factory) (t : Tick) (c gi : Nat) (ty : CtxType) (es : List Nat)
    (ctx : ContextInstance) (hi : reg.index c = some gi) (hg : reg[gi]? = some (.shared ty es ctx))
    (reg' : Registry) (dl : List Delivery) (hr : reg.rebuild mk t c = some (reg', dl)) :
    ctx.triggerRemoved t es = some dl ∧ ∃ e0, es.head? = some e0 ∧ reg' = reg.set gi (.shared ty es (mk c e0)) := by
  simp only [Registry.rebuild, hi, hg] at hr
  split at hr <;> cases hr
  exact ⟨‹_›, _, ‹_›, rfl⟩

theorem rebuild_exclusive_closes (mk : Factory) (t : Tick) (c : Nat) :
    ∀ (is is' : List (Nat × ContextInstance)) (dl : List Delivery),
      Registry.rebuildExclusive mk t c is = some (is', dl) →
      is' = is.map (fun p => (p.1, mk c p.1))
      ∧ ∃ dls : List (List Delivery), dls.length = is.length ∧ dl = dls.flatten
          ∧ ∀ i (h1 : i < is.length) (h2 : i < dls.length), (is[i]).2.triggerRemoved t [(is[i]).1] = some dls[i] := by
  intro is is' dl h
  rw [Registry.rebuildExclusive_eq] at h
  obtain ⟨hall, ⟨⟩⟩ := Option.ite_none_right_eq_some.mp h
  refine ⟨rfl, is.map fun p => (p.2.triggerRemoved t [p.1]).getD [], List.length_map _, List.flatMap_def .., fun i h1 h2 => ?_⟩
  obtain ⟨dl, hdl⟩ := Option.isSome_iff_exists.mp (hall _ (List.getElem_mem h1))
  rw [List.getElem_map, hdl]
  rfl

/-- (6) the command queue delivers every queued event exactly once, in order, when no observer reacts -/
theorem queue_plain (su : Setup) : ∀ (ds : List Delivery) (fuel : Nat) (st : AppState) (k : Nat) (seen : List Delivery),
    ds.length < fuel →
    runQueue su [] fuel (ds.map QItem.deliver) st k seen = some (st, k + ds.length, seen ++ ds) := by
  intro ds
  induction ds with
  | nil =>
    intro fuel st k seen h
    obtain ⟨n, rfl⟩ := Nat.exists_eq_add_one_of_ne_zero (Nat.ne_of_gt h)
    rw [List.append_nil]
    rfl
  | cons d ds ih =>
    intro fuel st k seen h
    obtain ⟨n, rfl⟩ := Nat.exists_eq_add_one_of_ne_zero (Nat.ne_of_gt (Nat.zero_lt_of_lt h))
    rw [List.map_cons, runQueue, List.filter_nil, List.map_nil, List.nil_append,
      ih n st (k + 1) (seen ++ [d]) (Nat.lt_of_succ_lt_succ h)]
    simp [Nat.add_assoc, Nat.add_comm 1]

/-- a deactivation requested from inside an observer: its closing events are put at the *front* of the queue — they
    overtake the rest of the frame's events (as the property allows) and each is still delivered exactly once -/
theorem reaction_closing_first (su : Setup) (reacts : Reactions) (fuel : Nat) (o : Op) (rest : List QItem)
    (st st2 : AppState) (dl : List Delivery) (k : Nat) (seen : List Delivery) (hop : applyOp su st o = some (st2, dl)) :
    runQueue su reacts (fuel + 1) (.op o :: rest) st k seen = runQueue su reacts fuel (dl.map QItem.deliver ++ rest) st2 k seen := by
  simp [runQueue, hop]

/-! ### exactly once, with arbitrary observer reactions -/

/-- the deliveries waiting in a queue -/
def pending : List QItem → List Delivery
  | [] => []
  | .deliver d :: rest => d :: pending rest
  | .op _ :: rest => pending rest

theorem pending_eq_filterMap (l : List QItem) :
    pending l = l.filterMap fun | .deliver d => some d | .op _ => none := by
  induction l with
  | nil => rfl
  | cons x xs ih => cases x <;> simp only [pending, List.filterMap_cons, ih]

theorem pending_append (a b : List QItem) : pending (a ++ b) = pending a ++ pending b := by
  simp only [pending_eq_filterMap, List.filterMap_append]

theorem pending_deliver (dl : List Delivery) : pending (dl.map QItem.deliver) = dl := by
  rw [pending_eq_filterMap, List.filterMap_map]
  exact List.filterMap_some

theorem pending_map_op {α} (f : α → Op) (l : List α) : pending (l.map fun x => QItem.op (f x)) = [] := by
  rw [pending_eq_filterMap, List.filterMap_map]
  exact List.filterMap_eq_nil_iff.mpr fun _ _ => rfl

theorem pending_ops (os : List Op) : pending (os.map QItem.op) = [] := pending_map_op id os

/-- the run of the queue ended because the queue was empty (not because the fuel ran out) -/
def queueDone (su : Setup) (reacts : Reactions) : Nat → List QItem → AppState → Nat → Bool
  | 0, stack, _, _ => stack.isEmpty
  | _ + 1, [], _, _ => true
  | f + 1, .deliver _ :: rest, st, k =>
    queueDone su reacts f ((reacts.filter (fun r => r.1 == k)).map (fun r => QItem.op r.2) ++ rest) st (k + 1)
  | f + 1, .op o :: rest, st, k =>
    match applyOp su st o with
    | none => true
    | some (st', dl) => queueDone su reacts f (dl.map QItem.deliver ++ rest) st' k

/-- What a run of the queue does, for arbitrary reaction scripts: it appends a list `processed` to the deliveries seen so far
    and advances the delivery counter by its length; and if the run ended because the queue was empty, `processed`
    contains everything that was pending, in its original relative order. -/
theorem queue_run {su : Setup} {reacts : Reactions} {fuel : Nat} {stack : List QItem} {st : AppState} {k : Nat}
    {seen : List Delivery} {st' k' seen'} (h : runQueue su reacts fuel stack st k seen = some (st', k', seen')) :
    ∃ processed, seen' = seen ++ processed ∧ k' = k + processed.length
      ∧ (queueDone su reacts fuel stack st k = true → (pending stack).Sublist processed) := by
  fun_induction runQueue su reacts fuel stack st k seen with
  | case1 stack =>
    cases h
    exact ⟨[], by simp, rfl, fun hd => by rw [List.isEmpty_iff.mp hd]; exact .slnil⟩
  | case2 => cases h; exact ⟨[], by simp, rfl, fun _ => List.Sublist.refl _⟩
  | case3 _ d rest _ _ _ _ ih =>
    obtain ⟨p, rfl, rfl, hp⟩ := ih h
    refine ⟨d :: p, List.append_assoc .., Nat.add_right_comm .., fun hd => ?_⟩
    have := hp (by simpa only [queueDone] using hd)
    rw [pending_append, pending_map_op] at this
    exact this.cons_cons d
  | case4 => cases h
  | case5 _ _ rest _ _ _ _ dl hop ih =>
    obtain ⟨p, hp1, hp2, hp⟩ := ih h
    refine ⟨p, hp1, hp2, fun hd => ?_⟩
    have := hp (by simpa only [queueDone, hop] using hd)
    rw [pending_append, pending_deliver] at this
    exact (List.sublist_append_right dl (pending rest)).trans this

/-- what was delivered is never lost: the deliveries seen so far stay a prefix of the final sequence, whatever the
    observers do (reactions only ever *add* closing events) -/
theorem queue_seen_prefix (su : Setup) (reacts : Reactions) :
    ∀ (fuel : Nat) (stack : List QItem) (st : AppState) (k : Nat) (seen : List Delivery) st' k' seen',
      runQueue su reacts fuel stack st k seen = some (st', k', seen') → seen <+: seen' :=
  fun _ _ _ _ _ _ _ _ h => (queue_run h).elim fun p hp => hp.1 ▸ List.prefix_append _ p

/-- (7) **every** queued event — the frame's action events and every closing event produced by a deactivation that an
    observer requested while the queue was being applied — is delivered **exactly once**: the final delivery sequence
    extends what was seen before by a list `processed` that contains all pending events in their original relative
    order, and the delivery counter advanced by exactly `processed.length` (nothing is delivered twice, nothing is
    dropped), for arbitrary reaction scripts. Closing events may overtake the rest of the frame's events (they are
    inserted in front), which is why this is a sublist and not a prefix statement. -/
theorem queue_exactly_once (su : Setup) (reacts : Reactions) :
    ∀ (fuel : Nat) (stack : List QItem) (st : AppState) (k : Nat) (seen : List Delivery) st' k' seen',
      runQueue su reacts fuel stack st k seen = some (st', k', seen') →
      queueDone su reacts fuel stack st k = true →
      ∃ processed, seen' = seen ++ processed ∧ (pending stack).Sublist processed ∧ k' = k + processed.length := by
  intro _ _ _ _ _ _ _ _ h hd
  obtain ⟨p, h1, h2, h3⟩ := queue_run h
  exact ⟨p, h1, h3 hd, h2⟩

/-- … and the closing events of an observer-requested deactivation are themselves among the delivered ones -/
theorem queue_closing_delivered (su : Setup) (reacts : Reactions) (fuel : Nat) (o : Op) (rest : List QItem)
    (st st2 : AppState) (dl : List Delivery) (k : Nat) (seen : List Delivery) st' k' seen'
    (hop : applyOp su st o = some (st2, dl))
    (h : runQueue su reacts (fuel + 1) (.op o :: rest) st k seen = some (st', k', seen'))
    (hd : queueDone su reacts (fuel + 1) (.op o :: rest) st k = true) :
    ∃ processed, seen' = seen ++ processed ∧ (dl ++ pending rest).Sublist processed := by
  simp only [runQueue, hop] at h
  simp only [queueDone, hop] at hd
  obtain ⟨p, hp1, _, hp⟩ := queue_run h
  exact ⟨p, hp1, by simpa only [pending_append, pending_deliver] using hp hd⟩

end BEI.Props.C02
