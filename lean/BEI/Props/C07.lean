/-
  C07 — The context registry mirrors the components present in the world, for every history of spawn, insert, remove,
  despawn, re-insert and rebuild (issued between frames, through commands or from observers) interleaved with frames.
-/
import BEI.Proofs.Total
namespace BEI.Props.C07

/-- (1) the registry mirrors the world in every reachable state: `ContextInstances::get::<C>(e)` is `Some` exactly
    when entity `e` currently holds component `C` -/
theorem registry_mirrors_world (su : Setup) (st : AppState) (h : Reachable su st) (c e : Nat) :
    (st.reg.get c e).isSome ↔ st.world.has e c = true := by
  rw [Registry.get_iff_memS h.mirror.wf, h.mirror.mirror]

/-- (2) structure of every reachable registry: one group per context type, no empty group, no entity twice in a group -/
theorem registry_wellformed (su : Setup) (st : AppState) (h : Reachable su st) : ShapeWF (shape st.reg) :=
  h.mirror.wf

/-- (3) shared mode: the group — and with it the common instance — exists exactly while at least one holder exists -/
theorem shared_exists_iff_holder (su : Setup) (st : AppState) (h : Reachable su st) (c : Nat) :
    (st.reg.index c).isSome ↔ ∃ e, st.world.has e c = true := by
  rw [Registry.index_isSome_iff_memS h.mirror.wf]
  exact exists_congr fun e => h.mirror.mirror c e

/-- (4) a holder arriving when no group of its type exists gets an instance built for it from scratch
    (`context_instance(world, entity)`), in a new group inserted at the priority position; a holder joining an existing
    shared group shares the existing instance, and a new exclusive holder gets its own fresh instance -/
theorem add_builds_fresh (reg : Registry) (mk : Factory) (ty : CtxType) (e : Nat) (h : reg.index ty.id = none) :
    reg.add mk ty e = reg.take (reg.insertPos ty.priority)
      ++ [if ty.shared then Group.shared ty [e] (mk ty.id e) else Group.exclusive ty [(e, mk ty.id e)]]
      ++ reg.drop (reg.insertPos ty.priority) := by
  rw [Registry.add_eq, h]
  rfl

theorem add_joins_existing (reg : Registry) (mk : Factory) (ty : CtxType) (e : Nat) (i : Nat) (h : reg.index ty.id = some i) :
    reg.add mk ty e = reg.modify i (fun g =>
      match g with
      | .exclusive t is => .exclusive t (is ++ [(e, mk ty.id e)])
      | .shared t es ctx => .shared t (es ++ [e]) ctx) := by
  rw [Registry.add_eq, h]
  rfl

/-- the last holder leaving removes the group (so the next holder starts from fresh state, by `add_builds_fresh`) -/
theorem last_holder_removes_group (su : Setup) (st : AppState) (h : Reachable su st) (t : Tick) (c e : Nat)
    (reg' : Registry) (dl : List Delivery) (hr : st.reg.remove t c e = some (reg', dl))
    (hlast : ∀ e', st.world.has e' c = true → e' = e) : reg'.index c = none := by
  have hm := h.mirror
  obtain ⟨hwf', hm'⟩ := Registry.remove_shape hm.wf hr
  refine Option.not_isSome_iff_eq_none.mp fun hi => ?_
  obtain ⟨e', he'⟩ := (Registry.index_isSome_iff_memS hwf' c).mp hi
  obtain ⟨h2, h3⟩ := (hm' c e').mp he'
  exact h3 ⟨rfl, hlast e' ((hm.mirror c e').mp h2)⟩

/-! ### none of the operations panics -/

/-- every instance built through the public `bind` API (in any order, re-binding included) is well formed -/
theorem empty_wf : CtxWF {} := by intro ab hab; cases hab

theorem bind_wf (ci : ContextInstance) (a : Nat) (d : Dim) (cons : Bool) (acc : Accum) (f : ActionBind → ActionBind)
    (hf : ∀ b, (f b).action = b.action) (h : CtxWF ci) : CtxWF (ci.bind a d cons acc f) := by
  rw [ctxWF_iff] at h ⊢
  rw [(ci.bind_keys a d cons acc hf).1, (ci.bind_keys a d cons acc hf).2, List.map_append, apply_ite (List.map _)]
  -- both lists grow by the same `if … then [] else [a]`
  exact fun x hx => List.mem_append.mpr ((List.mem_append.mp hx).imp_left (h x))

/-- (5) for every reachable state — any history of spawn, insert, remove, despawn, re-insert and rebuild, between
    frames, through commands or from observers — no lifecycle operation and no frame can panic: every `expect` of
    `ContextInstances::{add, remove, rebuild, update}`, `ContextInstance::{update, trigger_removed}` and
    `ActionBind::update` finds what it looks for (given that `context_instance` builds its instances with `bind`) -/
theorem no_operation_panics (su : Setup) (hs : SetupWF su) (st : AppState) (h : Reachable su st) (o : Op) :
    (applyOp su st o).isSome :=
  applyOp_total hs (h.good hs) o

theorem no_frame_panics (su : Setup) (hs : SetupWF su) (st : AppState) (h : Reachable su st) (raw : RawInput) (t : Tick)
    (reacts : Reactions) (posts : List Op) (fuel : Nat) : (frame su st raw t reacts posts fuel).isSome :=
  frame_total hs raw t reacts posts fuel (h.good hs)

end BEI.Props.C07
