/-
  C06 — Contexts are evaluated in descending priority whatever the insertion history.
-/
import BEI.Proofs.AppInv
import BEI.Props.C05
namespace BEI.Props.C06
open BEI.Props.C05

/-- (1) for every reachable application state — any order of registration, insertion, removal, re-insertion, rebuild and
    despawn over any entities, issued between frames, through commands or from observers, interleaved with any input
    frames — the registry is ordered by descending priority -/
theorem registry_sorted (su : Setup) (st : AppState) (h : Reachable su st) : SortedDesc st.reg :=
  reachable_pred (sorted_appPred su) List.Pairwise.nil h

/-- (2) the per-frame update walks the registry in list order: the groups of a prefix are evaluated — and consume
    input — before those of the rest, which see only what is left in the reader -/
theorem update_in_list_order (t : Tick) : ∀ (a b : Registry) (r : Reader),
    Registry.update r t (a ++ b) =
      match Registry.update r t a with
      | none => none
      | some oa =>
        match Registry.update oa.reader t b with
        | none => none
        | some ob => some { reg := oa.reg ++ ob.reg, reader := ob.reader,
                            deliveries := oa.deliveries ++ ob.deliveries, log := oa.log ++ ob.log } := by
  intro a b r
  -- along the evaluation of `a`: where it fails both sides are `none`; where it succeeds `b` is evaluated next
  fun_induction Registry.update r t a with
  | case1 r =>
    dsimp only [List.nil_append]
    cases Registry.update r t b <;> rfl
  | case2 | case3 | case5 | case6 => simp only [List.cons_append, Registry.update, *]
  | case4 | case7 =>
    rename_i oa _ _
    simp only [List.cons_append, Registry.update, *]
    cases Registry.update oa.reader t b with
    | none => rfl
    | some ob => simp only [List.append_assoc]

/-- (3) in a sorted registry a strictly higher priority type sits strictly earlier in the evaluation order -/
theorem higher_priority_earlier (reg : Registry) (h : SortedDesc reg) (i j : Nat) (gi gj : Group)
    (hi : reg[i]? = some gi) (hj : reg[j]? = some gj) (hp : gi.ty.priority > gj.ty.priority) : i < j := by
  obtain ⟨hil, rfl⟩ := List.getElem?_eq_some_iff.mp hi
  obtain ⟨hjl, rfl⟩ := List.getElem?_eq_some_iff.mp hj
  refine Nat.lt_of_not_le fun hle => ?_
  rcases Nat.lt_or_eq_of_le hle with hlt | rfl
  · exact Int.not_lt.mpr (List.pairwise_iff_getElem.mp h j i hjl hil hlt) hp
  · exact Int.lt_irrefl _ hp

/-- (3') hence the registry splits as `before ++ higher :: between ++ lower :: after`: by (2) the higher-priority
    context is evaluated, and consumes, first; the lower one reads the reader it leaves behind (C05) -/
theorem split_by_priority (reg : Registry) (h : SortedDesc reg) (i j : Nat) (gi gj : Group)
    (hi : reg[i]? = some gi) (hj : reg[j]? = some gj) (hp : gi.ty.priority > gj.ty.priority) :
    ∃ pre mid post, reg = pre ++ gi :: mid ++ gj :: post := by
  have hlt := higher_priority_earlier reg h i j gi gj hi hj hp
  -- split at `i`, then split what follows at the place `j` has there
  have hj' : (reg.drop (i + 1))[j - (i + 1)]? = some gj := by rw [List.getElem?_drop, Nat.add_sub_cancel' hlt, hj]
  refine ⟨reg.take i, (reg.drop (i + 1)).take (j - (i + 1)), (reg.drop (i + 1)).drop (j - (i + 1) + 1), ?_⟩
  rw [List.append_assoc, List.cons_append, ← (split_getElem? hj').1]
  exact (split_getElem? hi).1

/-- with distinct priorities the insertion point used by `add` is the only one that keeps the registry sorted, so the
    model's choice coincides with whatever a correct `binary_search_by_key` returns -/
theorem insertion_point_unique (reg : Registry) (g : Group) (n : Nat) (hn : n ≤ reg.length)
    (hdist : ∀ x ∈ reg, x.ty.priority ≠ g.ty.priority)
    (hs : SortedDesc (reg.take n ++ [g] ++ reg.drop n)) : n = reg.insertPos g.ty.priority := by
  rw [SortedDesc, List.append_assoc, List.pairwise_append] at hs
  obtain ⟨_, h2, h3⟩ := hs
  -- everything before position `n` is above `g`, and the group at `n`, if there is one, is below it
  have hbefore : ∀ x ∈ reg.take n, decide (x.ty.priority > g.ty.priority) = true := fun x hx =>
    decide_eq_true (Int.lt_iff_le_and_ne.mpr
      ⟨h3 x hx g (List.mem_append_left _ (List.mem_singleton.mpr rfl)), (hdist x (List.mem_of_mem_take hx)).symm⟩)
  have hafter : (reg.drop n).takeWhile (fun x => decide (x.ty.priority > g.ty.priority)) = [] := by
    cases hd : reg.drop n with
    | nil => rfl
    | cons y ys =>
      have := List.rel_of_pairwise_cons (hd ▸ h2) List.mem_cons_self
      exact List.takeWhile_cons_of_neg fun hgt => Int.not_lt.mpr this (of_decide_eq_true hgt)
  rw [Registry.insertPos, ← congrArg (List.takeWhile _) (List.take_append_drop n reg),
    List.takeWhile_append_of_pos hbefore, hafter, List.append_nil, List.length_take, Nat.min_eq_left hn]

theorem update_append_some {t : Tick} {a b : Registry} {r : Reader} {o : Registry.Out}
    (h : Registry.update r t (a ++ b) = some o) :
    ∃ oa ob, Registry.update r t a = some oa ∧ Registry.update oa.reader t b = some ob ∧ o.reader = ob.reader := by
  rw [update_in_list_order] at h
  split at h
  · cases h
  · split at h <;> cases h
    refine ⟨_, _, ‹_›, ‹_›, ?_⟩
    rfl

/-- **the higher-priority context wins contested inputs.**  In every reachable application state, for two context types
    present with priorities `gi > gj`, the frame update evaluates `gi` first; whatever is hidden when `gi` is done (in
    particular every input a consuming, non-None action of `gi` contributed to, `C05.update_consumes`) is still hidden when
    `gj`'s turn comes, so every binding of `gj` that names such an input reads it as inactive, whichever gamepad `gj`'s
    instances select. -/
theorem higher_priority_wins (su : Setup) (st : AppState) (hr : Reachable su st) (i j : Nat) (gi gj : Group)
    (hi : st.reg[i]? = some gi) (hj : st.reg[j]? = some gj) (hp : gi.ty.priority > gj.ty.priority)
    (r : Reader) (t : Tick) (o : Registry.Out) (hu : Registry.update r t st.reg = some o) :
    ∃ pre mid post opre ogi omid,
      st.reg = pre ++ gi :: mid ++ gj :: post
      ∧ Registry.update r t pre = some opre
      ∧ Registry.update opre.reader t [gi] = some ogi
      ∧ Registry.update ogi.reader t mid = some omid
      ∧ (∃ ogj, Registry.update omid.reader t [gj] = some ogj)
      ∧ ∀ (x : Input) (dev : Device), hiddenBy ogi.reader.consumed dev x = true →
          ((omid.reader.setGamepad dev).value x = inactive x) := by
  obtain ⟨pre, mid, post, hsplit⟩ := split_by_priority st.reg (registry_sorted su st hr) i j gi gj hi hj hp
  rw [hsplit, List.append_assoc] at hu
  -- `g :: l` is `[g] ++ l` by definition
  obtain ⟨opre, o1, hpre, h1, _⟩ := update_append_some hu
  obtain ⟨ogi, o2, hgi, h2, _⟩ := update_append_some (a := [gi]) (b := mid ++ gj :: post) h1
  obtain ⟨omid, o3, hmid, h3, _⟩ := update_append_some h2
  obtain ⟨ogj, _, hgj, _, _⟩ := update_append_some (a := [gj]) (b := post) h3
  refine ⟨pre, mid, post, opre, ogi, omid, hsplit, hpre, hgi, hmid, ⟨ogj, hgj⟩, ?_⟩
  intro x dev hx
  apply hidden_reads_inactive
  simpa [Reader.setGamepad] using registry_keeps_hidden t x dev mid ogi.reader omid hmid hx
end BEI.Props.C06
