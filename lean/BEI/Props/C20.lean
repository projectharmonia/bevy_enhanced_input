/-
  C20 — Action value conversions only drop trailing axes or zero-fill missing ones.
  All statements are about `BEI.Value` (Model/Value.lean), for *all* values and dimensions.
-/
import BEI.Proofs.Value
import Mathlib.Algebra.Order.Ring.Abs
import Mathlib.Algebra.Order.Ring.Rat
namespace BEI.Props.C20
open Value

/-- number of axes of a dimension (`Bool` counts as one axis holding 0/1) -/
def axes : Dim → Nat
  | .bool => 1 | .a1 => 1 | .a2 => 2 | .a3 => 3

/-- keep the first `n` axes, zero the rest -/
def trunc (n : Nat) (p : V3) : V3 := ⟨if 0 < n then p.x else 0, if 1 < n then p.y else 0, if 2 < n then p.z else 0⟩

/-- "widening": `dst` has at least as many axes, and we never go from a numeric value to `Bool` -/
def widens (src dst : Dim) : Prop := axes src ≤ axes dst ∧ (dst = .bool → src = .bool)

/-- converting yields the requested dimension -/
theorem convert_dim (v : Value) (d : Dim) : (v.convert d).dim = d := Value.convert_dim v d

/-- converting to the own dimension is the identity -/
theorem convert_self (v : Value) : v.convert v.dim = v := Value.convert_self v

/-- the zero value is falsy (that it has the requested dimension is `Value.zero_dim`) -/
theorem zero_falsy (d : Dim) : (Value.zero d).asBool = false := by cases d <;> decide

/-- a value is truthy iff some component is non-zero (Bool ↔ 0/1 on X) -/
theorem asBool_iff (v : Value) : v.asBool = true ↔ v.as3 ≠ V3.zero := by
  -- truthiness reads the 3-vector view only
  rw [← Value.bool.inj (ofV3_as3 v .bool)]
  obtain ⟨x, y, z⟩ := v.as3
  -- both sides negate `x = 0 ∧ y = 0 ∧ z = 0`
  simp only [asBool, V3.zero, Ne, V3.mk.injEq, Bool.not_eq_true', ← Bool.not_eq_true, Bool.and_eq_true, beq_iff_eq,
    and_assoc]

/-- narrowing / widening to a numeric dimension keeps the leading axes in place, drops the trailing ones and
    zero-fills the missing ones: no axis is ever permuted -/
theorem convert_as3 (v : Value) (d : Dim) (hd : d ≠ .bool) :
    (v.convert d).as3 = trunc (axes d) v.as3 := by
  rw [← ofV3_as3]
  cases d
  · exact absurd rfl hd
  all_goals rfl

/-- a value has no component beyond its axes -/
theorem trunc_as3 (v : Value) : trunc (axes v.dim) v.as3 = v.as3 := by cases v <;> rfl

theorem trunc_trunc {m n : Nat} (h : m ≤ n) (p : V3) : trunc n (trunc m p) = trunc m p := by
  -- the outer `if` is its first branch: where its guard fails, so does the inner one
  have keep (k : Nat) (a : Rat) : (if k < n then (if k < m then a else 0) else 0) = if k < m then a else 0 :=
    ite_eq_left_iff.2 fun hn => (if_neg fun hm => hn (Nat.lt_of_lt_of_le hm h)).symm
  simp only [trunc, keep]

/-- widening never changes the components: the 3-vector view of the value is unchanged -/
theorem widen_as3 (v : Value) (d : Dim) (h : widens v.dim d) : (v.convert d).as3 = v.as3 := by
  by_cases hd : d = .bool
  · -- only a Bool widens to Bool
    rw [hd, ← h.2 hd, Value.convert_self]
  · rw [convert_as3 v d hd, ← trunc_as3 v, trunc_trunc h.1]

/-- widening then narrowing back returns the original (Bool corresponds to 0/1 on X): a conversion reads the 3-vector
    view only, and widening keeps it -/
theorem widen_narrow (v : Value) (d : Dim) (h : widens v.dim d) : (v.convert d).convert v.dim = v := by
  rw [← ofV3_as3, widen_as3 v d h, ofV3_as3, Value.convert_self]

/-- truthiness is preserved by widening -/
theorem widen_truthy (v : Value) (d : Dim) (h : widens v.dim d) : (v.convert d).asBool = v.asBool := by
  rw [Bool.eq_iff_iff, asBool_iff, asBool_iff, widen_as3 v d h]

/-- narrowing to Bool is exactly truthiness; a numeric value narrowed to Bool comes back as 0/1 only -/
theorem to_bool (v : Value) : v.convert .bool = .bool v.asBool := rfl

theorem bool_roundtrip_guard (x : Rat) :
    ((Value.a1 x).convert .bool).convert .a1 = .a1 x ↔ (x = 0 ∨ x = 1) := by
  show Value.a1 (if (!(x == 0)) = true then 1 else 0) = .a1 x ↔ _
  rw [Value.a1.injEq]
  -- `==` on `Rat` is `decide (· = ·)`
  cases hb : x == 0
  · have hx : x ≠ 0 := of_decide_eq_false hb
    rw [Bool.not_false, if_pos rfl]
    exact ⟨fun h => .inr h.symm, fun h => (h.resolve_left hx).symm⟩
  · rw [of_decide_eq_true hb]
    exact iff_of_true rfl (.inl rfl)

/-- actuation: `isActuated v t` iff the magnitude of the value is at least `|t|` — stated for *any* length
    `l ≥ 0` with `l² = ‖v‖²` (the rationals have no square root; the code compares squares as well). -/
theorem isActuated_iff (v : Value) (t l : Rat) (hl : 0 ≤ l) (hsq : l * l = v.as3.normSq) :
    v.isActuated t = true ↔ |t| ≤ l := by
  rw [isActuated, decide_eq_true_eq, ← hsq, ← abs_le_iff_mul_self_le, abs_of_nonneg hl]

/-- non-vacuity: a concrete value with an exact length -/
example : (Value.a2 3 4).isActuated 5 = true ∧ (Value.a2 3 4).isActuated (-5) = true
    ∧ (Value.a2 3 4).isActuated (11/2) = false := by
  decide +kernel

example : widens (Value.a1 (3/4)).dim .a3 := ⟨by decide, nofun⟩

end BEI.Props.C20
