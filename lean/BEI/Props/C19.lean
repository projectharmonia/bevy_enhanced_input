/-
  C19 — Equivalent binding constructions behave identically; presets match the compass.
-/
import BEI.Model.BindSet
import BEI.Proofs.Update
namespace BEI.Props.C19
open BSet

/-! ### constructions -/

/-- a tuple denotes the concatenation of its members' bindings (so nesting and flattening tuples changes nothing) -/
theorem tuple_assoc (a b c : BSet) : (tuple (tuple a b) c).bindings = (tuple a (tuple b c)).bindings := by
  simp [bindings]

theorem tuple_empty (a : BSet) : (tuple a empty).bindings = a.bindings ∧ (tuple empty a).bindings = a.bindings := by
  simp [bindings]

/-- array, slice and `Vec` of plain inputs = the tuple of the single inputs -/
theorem list_is_tuple (i : Input) (is : List Input) :
    (list (i :: is)).bindings = (tuple (single { input := i }) (list is)).bindings := by
  rfl

/-- the `each` helpers append to every element, in order, after the element's own modifiers / conditions; they
    distribute over tuples; attaching per input or through the helper is the same -/
theorem modsEach_tuple (a b : BSet) (ms : List Mod) :
    (modsEach (tuple a b) ms).bindings = (tuple (modsEach a ms) (modsEach b ms)).bindings := by
  simp [bindings]

theorem condsEach_tuple (a b : BSet) (cs : List Cond) :
    (condsEach (tuple a b) cs).bindings = (tuple (condsEach a cs) (condsEach b cs)).bindings := by
  simp [bindings]

theorem modsEach_single (b : InputBind) (ms : List Mod) :
    (modsEach (single b) ms).bindings = (single { b with mods := b.mods ++ ms }).bindings := rfl

theorem condsEach_single (b : InputBind) (cs : List Cond) :
    (condsEach (single b) cs).bindings = (single { b with conds := b.conds ++ cs }).bindings := rfl

theorem modsEach_twice (s : BSet) (m1 m2 : List Mod) :
    (modsEach (modsEach s m1) m2).bindings = (modsEach s (m1 ++ m2)).bindings := by
  simp [bindings, withMods]

theorem each_commute (s : BSet) (ms : List Mod) (cs : List Cond) :
    (condsEach (modsEach s ms) cs).bindings = (modsEach (condsEach s cs) ms).bindings := by
  simp [bindings, withMods, withConds]

/-- (1) passing a set in one call or its parts by repeated calls yields literally the same `ActionBind` -/
theorem to_tuple_is_repeated_to (ab : ActionBind) (a b : BSet) : ab.to (tuple a b) = (ab.to a).to b := by
  simp [ActionBind.to, bindings]

/-- (2) two constructions that denote the same sequence of (input, modifiers, conditions) yield literally the same
    `ActionBind` — hence the same behaviour on every input script (the evaluation is a function of the `ActionBind`) -/
theorem behaviour_congr (ab : ActionBind) (s1 s2 : BSet) (h : s1.bindings = s2.bindings) : ab.to s1 = ab.to s2 := by
  simp [ActionBind.to, h]

theorem behaviour_congr_update (ab : ActionBind) (s1 s2 : BSet) (h : s1.bindings = s2.bindings)
    (r : Reader) (av : ActionsView) (t : Tick) (es : List Nat) :
    ((ab.to s1).update r av t es).map (fun o => (o.deliveries, o.actions, o.log)) =
    ((ab.to s2).update r av t es).map (fun o => (o.deliveries, o.actions, o.log)) := by
  rw [behaviour_congr ab s1 s2 h]

/-- binding an action a second time extends it in place (see also C13.bind_idempotent_position) -/
theorem rebind_extends (ci : ContextInstance) (a : Nat) (d : Dim) (cons : Bool) (acc : Accum) (s : BSet)
    (h : ci.actions.get? a ≠ none) :
    (ci.bind a d cons acc (fun ab => ab.to s)).bindings
      = ci.bindings.map (fun b => if b.action == a then b.to s else b) := by
  obtain ⟨x, hx⟩ := Option.ne_none_iff_exists'.mp h
  rw [ContextInstance.bind_of_some hx]

/-! ### presets: the compass -/

/-- what one binding contributes for a pressed button (`Bool(true)`) after its modifiers -/
def contribution (b : InputBind) (av : ActionsView) (t : Tick) (raw : Value) : V3 := (runMods av t b.mods raw).as3

theorem contribution_withMods (b : InputBind) (ms : List Mod) (av : ActionsView) (t : Tick) (raw : Value) :
    contribution (withMods b ms) av t raw = (runMods av t ms (runMods av t b.mods raw)).as3 :=
  congrArg Value.as3 (runMods_append av t b.mods ms raw)

/-- the two modifiers the presets attach, on the three axes of any value -/
theorem negAll_as3 (av : ActionsView) (t : Tick) (v : Value) :
    (negAll.apply av t v).2.as3 = ⟨-v.as3.x, -v.as3.y, -v.as3.z⟩ := by
  cases v <;> rfl

theorem swzYXZ_as3 (av : ActionsView) (t : Tick) (v : Value) :
    (swzYXZ.apply av t v).2.as3 = ⟨v.as3.y, v.as3.x, v.as3.z⟩ := by
  cases v <;> rfl

/-- (3) Cardinal: north ↦ +Y, east ↦ +X, south ↦ −Y, west ↦ −X, for arbitrary inputs in the four fields
    (each field's own bindings get exactly the listed modifiers appended) -/
theorem cardinal_compass (n e s w : Input) (av : ActionsView) (t : Tick) :
    let bs := (cardinal (single { input := n }) (single { input := e }) (single { input := s }) (single { input := w })).bindings
    bs.map (·.input) = [n, e, s, w]
    ∧ bs.map (fun b => contribution b av t (.bool true)) = [⟨0, 1, 0⟩, ⟨1, 0, 0⟩, ⟨0, -1, 0⟩, ⟨-1, 0, 0⟩]
    ∧ bs.map (fun b => contribution b av t (.bool false)) = [⟨0, 0, 0⟩, ⟨0, 0, 0⟩, ⟨0, 0, 0⟩, ⟨0, 0, 0⟩] := by
  simp [bindings, withMods, contribution, runMods, swzYXZ_as3, negAll_as3]
  simp [Value.as3]

/-- Bidirectional: positive ↦ +, negative ↦ − -/
theorem bidirectional_signs (p n : Input) (av : ActionsView) (t : Tick) :
    let bs := (bidir (single { input := p }) (single { input := n })).bindings
    bs.map (·.input) = [p, n]
    ∧ bs.map (fun b => contribution b av t (.bool true)) = [⟨1, 0, 0⟩, ⟨-1, 0, 0⟩] := by
  simp [bindings, withMods, contribution, runMods, negAll_as3]
  simp [Value.as3]

/-- a gamepad stick maps its X axis to X and its Y axis to Y -/
theorem stick_axes (right : Bool) (av : ActionsView) (t : Tick) (x y : Rat) :
    let bs := (stick right).bindings
    bs.map (·.input) = [.padAxis (if right then 2 else 0), .padAxis (if right then 3 else 1)]
    ∧ (bs.zip [Value.a1 x, Value.a1 y]).map (fun p => contribution p.1 av t p.2) = [⟨x, 0, 0⟩, ⟨0, y, 0⟩] := by
  simp [bindings, withMods, contribution, runMods, swzYXZ_as3]
  simp [Value.as3]

/-- presets of sets: every binding of the field is treated alike (e.g. `Cardinal { north: &vec, … }`) -/
theorem cardinal_of_sets (n e s w : BSet) :
    (cardinal n e s w).bindings =
      (tuple (tuple (tuple (modsEach n [swzYXZ]) e) (modsEach s [negAll, swzYXZ])) (modsEach w [negAll])).bindings := by
  rfl

/-- Bidirectional of arbitrary field sets: the positive field's bindings unchanged, then every binding of the negative
    field with `Negate::all()` appended -/
theorem bidirectional_of_sets (p n : BSet) :
    (bidir p n).bindings = (tuple p (modsEach n [negAll])).bindings := by
  rfl

/-- "negative ↦ −" for whatever the negative field produces: **every** axis of the field's own result is reversed (the
    field may be a binding with its own swizzle, a nested stick preset, …, so Y and Z matter) -/
theorem bidirectional_negates_every_axis (b : InputBind) (av : ActionsView) (t : Tick) (raw : Value) :
    contribution (withMods b [negAll]) av t raw
      = ⟨-(contribution b av t raw).x, -(contribution b av t raw).y, -(contribution b av t raw).z⟩ := by
  rw [contribution_withMods]
  exact negAll_as3 av t _

/-- e.g. a vertical Bidirectional whose fields carry their own `SwizzleAxis::YXZ`: up ↦ +Y, down ↦ −Y -/
example (p n : Input) (av : ActionsView) (t : Tick) :
    ((bidir (single (withMods { input := p } [swzYXZ])) (single (withMods { input := n } [swzYXZ]))).bindings).map
      (fun b => contribution b av t (.bool true)) = [⟨0, 1, 0⟩, ⟨0, -1, 0⟩] := by
  simp [bindings, withMods, contribution, runMods, swzYXZ_as3, negAll_as3]
  simp [Value.as3]

/-- D5 (fixed by bc1fcbe): the pinned code attached `Negate` to *east* and nothing to west: east gave −X -/
theorem legacy_east_west (av : ActionsView) (t : Tick) :
    contribution (withMods { input := .key 0 {} } [negAll]) av t (.bool true) = ⟨-1, 0, 0⟩ := by
  simp [withMods, contribution, runMods, negAll_as3]
  simp [Value.as3]

end BEI.Props.C19
