/-
  C15 — Bindings read exactly the device, key and modifier combination they name.
  Statements are about `Reader.value` at the start of a frame (`updateState`: empty consumed set) without UI masking;
  that Bevy's `ButtonInput`, accumulated mouse deltas and `Gamepad` components hold what the devices sent is Bevy's
  contract (modelled by `RawInput`, exercised by the correspondence only) — hence *partly partial*.
-/
import BEI.Proofs.Frame
namespace BEI.Props.C15
open BEI.Props.C05

/-- a reader at the start of a frame with no UI interaction -/
def fresh (raw : RawInput) (dev : Device) : Reader := { raw := raw, consumed := {}, device := dev }

/-- the left / right key table of the modifier bits, as extracted from `ModKeys::iter_keys` on this run -/
theorem modkey_table :
    (ModKeys.keyPairs { alt := true }) = [(8, 9)] ∧ (ModKeys.keyPairs { control := true }) = [(10, 11)]
    ∧ (ModKeys.keyPairs { shift := true }) = [(12, 13)] ∧ (ModKeys.keyPairs { super := true }) = [(14, 15)]
    ∧ (ModKeys.keyPairs {}) = [] := by decide

/-- every required modifier bit contributes its (left, right) pair and nothing else does -/
theorem keyPairs_mem (m : ModKeys) (p : Nat × Nat) :
    p ∈ m.keyPairs ↔ (m.alt = true ∧ p = (8, 9)) ∨ (m.control = true ∧ p = (10, 11)) ∨ (m.shift = true ∧ p = (12, 13))
      ∨ (m.super = true ∧ p = (14, 15)) := by
  simp only [ModKeys.keyPairs, Gen.modKeys, List.mem_map, List.mem_filter, List.mem_cons, List.not_mem_nil, or_false,
    or_and_right, exists_or, and_assoc, exists_eq_left, ModKeys.has, @eq_comm _ p]

/-- with nothing consumed the modifier requirement is the physical one: for every required bit the left or the right key
    is down -/
theorem fresh_modKeysPressed (raw : RawInput) (dev : Device) (m : ModKeys) :
    (fresh raw dev).modKeysPressed m = m.keyPairs.all (fun p => raw.keys.contains p.1 || raw.keys.contains p.2) := by
  rfl

/-- (1) a keyboard binding is active iff its key is down and for every required modifier the left or the right
    variant is down -/
theorem key_active (raw : RawInput) (dev : Device) (k : Nat) (m : ModKeys) :
    (fresh raw dev).value (.key k m) =
      .bool (raw.keys.contains k && m.keyPairs.all (fun p => raw.keys.contains p.1 || raw.keys.contains p.2)) := by
  rw [Reader.value, fresh_modKeysPressed]
  simp [fresh]

theorem mbtn_active (raw : RawInput) (dev : Device) (b : Nat) (m : ModKeys) :
    (fresh raw dev).value (.mbtn b m) =
      .bool (raw.mouseButtons.contains b && m.keyPairs.all (fun p => raw.keys.contains p.1 || raw.keys.contains p.2)) := by
  rw [Reader.value, fresh_modKeysPressed]
  simp [fresh]

/-- (2) irrespective of any other keys: two raw states that agree on the named key and on the modifier keys of the
    required bits give the same reading -/
theorem key_congr (raw raw' : RawInput) (dev : Device) (k : Nat) (m : ModKeys)
    (hk : raw.keys.contains k = raw'.keys.contains k)
    (hm : ∀ p ∈ m.keyPairs, raw.keys.contains p.1 = raw'.keys.contains p.1 ∧ raw.keys.contains p.2 = raw'.keys.contains p.2) :
    (fresh raw dev).value (.key k m) = (fresh raw' dev).value (.key k m) := by
  rw [key_active, key_active, hk]
  congr 2
  rw [Bool.eq_iff_iff, List.all_eq_true, List.all_eq_true]
  exact forall₂_congr fun p hp => by rw [(hm p hp).1, (hm p hp).2]

/-- (3) a binding without modifier requirements ignores the modifier keys (and everything but its own key) -/
theorem no_mods_ignores_modifiers (raw : RawInput) (dev : Device) (k : Nat) :
    (fresh raw dev).value (.key k {}) = .bool (raw.keys.contains k) := by
  rw [key_active]; simp [modkey_table.2.2.2.2]

/-- (4) mouse motion and wheel report the frame's accumulated delta under the same modifier rule, zero on quiet frames -/
theorem motion_value (raw : RawInput) (dev : Device) (m : ModKeys) :
    (fresh raw dev).value (.motion m) =
      if m.keyPairs.all (fun p => raw.keys.contains p.1 || raw.keys.contains p.2) then .a2 raw.motion.1 raw.motion.2 else .a2 0 0 := by
  rw [Reader.value, fresh_modKeysPressed]
  cases m.keyPairs.all _ <;> rfl

theorem wheel_value (raw : RawInput) (dev : Device) (m : ModKeys) :
    (fresh raw dev).value (.wheel m) =
      if m.keyPairs.all (fun p => raw.keys.contains p.1 || raw.keys.contains p.2) then .a2 raw.wheel.1 raw.wheel.2 else .a2 0 0 := by
  rw [Reader.value, fresh_modKeysPressed]
  cases m.keyPairs.all _ <;> rfl

theorem quiet_frame (raw : RawInput) (dev : Device) (m : ModKeys) (h : raw.motion = (0, 0)) :
    (fresh raw dev).value (.motion m) = .a2 0 0 := by
  rw [motion_value]; split <;> simp [h]

/-- (5) a context tied to gamepad `g` reads only that gamepad: the reading depends on nothing but `g`'s own state, and
    is inactive if `g` is gone -/
theorem single_reads_only_g (raw raw' : RawInput) (g : Nat)
    (h : raw.pads.find? (fun p => p.handle == g) = raw'.pads.find? (fun p => p.handle == g)) (b x : Nat) :
    (fresh raw (.single g)).value (.padBtn b) = (fresh raw' (.single g)).value (.padBtn b)
    ∧ (fresh raw (.single g)).value (.padAxis x) = (fresh raw' (.single g)).value (.padAxis x) := by
  simp [fresh, Reader.value, Reader.findPad, h]

theorem single_absent_inactive (raw : RawInput) (g : Nat) (h : raw.pads.find? (fun p => p.handle == g) = none) (b x : Nat) :
    (fresh raw (.single g)).value (.padBtn b) = .bool false ∧ (fresh raw (.single g)).value (.padAxis x) = .a1 0 := by
  simp [fresh, Reader.value, Reader.findPad, h]

/-- (6) an unrestricted context sees a button pressed on any gamepad -/
theorem any_button (raw : RawInput) (b : Nat) :
    (fresh raw .any).value (.padBtn b) = .bool (raw.pads.any (fun p => p.pressed b)) := by
  simp [fresh, Reader.value]

/-- … and, when exactly one gamepad reports a non-zero value on an axis, that value -/
theorem any_axis_unique (raw : RawInput) (x : Nat) (pre post : List Pad) (p : Pad) (q : Rat)
    (hsplit : raw.pads = pre ++ p :: post) (hp : p.axisRaw x = some q) (hq : q ≠ 0)
    (hpre : ∀ p' ∈ pre, (p'.axisRaw x).filter (fun q => q != 0) = none)
    : (fresh raw .any).value (.padAxis x) = .a1 q := by
  simp [fresh, Reader.value, hsplit, List.findSome?_eq_none_iff.mpr hpre, hp, hq, Option.filter_some]

/-- (7) with a single gamepad both settings behave identically (axis values within the device range [-1, 1]) -/
theorem one_gamepad_same (p : Pad) (raw : RawInput) (hone : raw.pads = [p]) (b x : Nat)
    (hrange : ∀ q, p.axisRaw x = some q → -1 ≤ q ∧ q ≤ 1) :
    (fresh raw .any).value (.padBtn b) = (fresh raw (.single p.handle)).value (.padBtn b)
    ∧ (fresh raw .any).value (.padAxis x) = (fresh raw (.single p.handle)).value (.padAxis x) := by
  constructor
  · simp [fresh, Reader.value, Reader.findPad, hone]
  · simp only [fresh, Reader.value, Reader.findPad, hone, List.findSome?_cons, List.findSome?_nil, List.find?_cons,
      beq_self_eq_true]
    cases hq : p.axisRaw x with
    | none => simp [hq]
    | some q =>
      simp only [Option.bind_some, hq, Option.map_some, Pad.clamp1_of_range (hrange q hq).1 (hrange q hq).2]
      by_cases h0 : q = 0 <;> simp [h0, Option.filter]

/-- **every reading, anywhere in the frame**: a binding whose input is not hidden by consumption, read with the UI flag
    clear, reads exactly what the fresh reader of this frame reads — so the characterisations above (`key_active`,
    `mbtn_active`, `motion_value`, `single_reads_only_g`, `any_button`, …) hold for every context at its turn, not only
    for the first one; a hidden input reads inactive (`C05.hidden_reads_inactive`), a mouse input under the UI flag
    too (`C16.masked_reader`) -/
theorem unhidden_reads_physical (r : Reader) (j : Input) (h : hiddenBy r.consumed r.device j = false)
    (hui : r.consumed.uiWantsMouse = false) : r.value j = (fresh r.raw r.device).value j := by
  rw [Reader.value_eq, h, Reader.unconsumed, hui]
  rfl

/-- **every action of a context instance is evaluated with the instance's own gamepad selection**: split the instance's
    bindings anywhere — the reader handed to the rest (after the actions before it were evaluated and consumed whatever they
    consumed) still selects `ci.gamepad`, and still carries this frame's raw device state.  So a context tied to one gamepad
    reads only that gamepad (`single_reads_only_g`, `single_absent_inactive`) at every action's turn, whatever other
    contexts with other selections were evaluated before it. -/
theorem action_turn_device (ci : ContextInstance) (r : Reader) (t : Tick) (es : List Nat) (pre : List ActionBind)
    (pre' : List ActionBind) (r1 : Reader) (av1 : ActionsView) (dl1 : List Delivery) (lg1 : List Inv)
    (h : ContextInstance.loopActions (r.setGamepad ci.gamepad) ci.actions t es pre = some (pre', r1, av1, dl1, lg1)) :
    r1.device = ci.gamepad ∧ r1.raw = r.raw :=
  ContextInstance.loopActions_reader_inv (P := fun x => x.device = ci.gamepad ∧ x.raw = r.raw)
    (fun x i hx => ⟨(Reader.consume_device x i).trans hx.1, (Reader.consume_raw x i).trans hx.2⟩) h ⟨rfl, rfl⟩

end BEI.Props.C15
