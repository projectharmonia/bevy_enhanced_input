/-
  Non-vacuity witnesses: a concrete, non-trivial reachable application state and frames run on it (all by kernel evaluation).
-/
import BEI.Props.C06
import BEI.Model.BindSet
namespace BEI.Props.Witness

/-- three context types (registered lowest priority first), each binding one consuming Bool action to key 0 -/
def demoSetup : Setup :=
  { types := [{ id := 2, priority := 2, shared := false }, { id := 1, priority := 5, shared := true },
              { id := 0, priority := 9, shared := false }],
    config := fun c _ =>
      ({ } : ContextInstance).bind c .bool true .cumulative
        (fun ab => ab.to (.single { input := .key 0 {} })) }

def ops : List Op := [.spawn 0, .spawn 1, .insert 0 2 0, .insert 1 1 0, .insert 0 0 0, .insert 0 1 0, .remove 1 1]

/-- run operations, `none` if one of them panics -/
def runOps (su : Setup) : AppState → List Op → Option AppState
  | st, [] => some st
  | st, o :: os => match applyOp su st o with
    | some (st', _) => runOps su st' os
    | none => none

theorem runOps_reachable {su : Setup} {os : List Op} {st st' : AppState} (h : Reachable su st)
    (hr : runOps su st os = some st') : Reachable su st' := by
  fun_induction runOps su st os with
  | case1 => cases hr; exact h
  | case2 st o os st₁ dl hop ih => exact ih (Reachable.op st o st₁ dl h hop) hr
  | case3 => cases hr

def demoState : AppState := (runOps demoSetup {} ops).getD {}

/-- a non-trivial reachable state: three context types inserted lowest priority first on two entities, one shared holder
    removed again — the hypotheses of the theorems over `Reachable` states are satisfiable by more than the empty app -/
theorem demo_reachable : Reachable demoSetup demoState :=
  runOps_reachable (os := ops) Reachable.init (Option.getD_of_ne_none (by decide +kernel) _).symm

/-- … and in it the registry order is by descending priority although the insertion order was ascending -/
example : demoState.reg.map (fun g => g.ty.id) = [0, 1, 2] := by decide +kernel

example : SortedDesc demoState.reg := C06.registry_sorted demoSetup demoState demo_reachable

/-- an idle frame first (a fresh binding ignores its input until it has been seen inactive once, C08) … -/
def demoIdle : Option FrameOut := frame demoSetup demoState {} { delta := 0, speed := 1 } [] [] 100
def demoState' : AppState := (demoIdle.map (·.st)).getD {}

theorem demo_reachable' : Reachable demoSetup demoState' := by
  obtain ⟨o, h⟩ := Option.isSome_iff_exists.mp (show demoIdle.isSome = true by decide +kernel)
  rw [demoState', h]
  exact Reachable.frame demoState {} { delta := 0, speed := 1 } [] [] 100 o demo_reachable h

/-- with the key up nothing is delivered (C09: a steady frame delivers no edge events) -/
example : (demoIdle.map (fun o => o.deliveries.length)) = some 0 := by decide +kernel

/-- … then one frame with the contested key down: only the highest-priority context's action starts and fires; the key is
    consumed before the shared context (priority 5) and the low exclusive one (priority 2) read it (`higher_priority_wins`) -/
example : ((frame demoSetup demoState' { keys := [0] } { delta := 1 / 64, speed := 1 } [] [] 100).map
      (fun o => o.deliveries.map (fun d => (d.entity, d.action, d.kind)))) =
    some [(0, 0, EvKind.started), (0, 0, EvKind.fired)] := by decide +kernel

/-- the state after the frame in which the contested key went down (the top context's action is Fired) -/
def demoPressed : AppState :=
  ((frame demoSetup demoState' { keys := [0] } { delta := 1 / 64, speed := 1 } [] [] 100).map (·.st)).getD {}

/-- removing the top context while its action is Fired closes the episode with exactly one `Completed` (state None, zero
    value) addressed to the leaving entity, and the lookup fails afterwards (C02 `remove_closes`, C07) -/
def closing (p : AppState × List Delivery) : List (Nat × EvKind × AState × Value) :=
  p.2.map (fun d => (d.entity, d.kind, d.state, d.value))

example : ((applyOp demoSetup demoPressed (.remove 0 0)).map closing) =
    some [(0, EvKind.completed, AState.none, Value.bool false)] := by decide +kernel

example : ((applyOp demoSetup demoPressed (.remove 0 0)).map (fun p => (p.1.reg.get 0 0).isSome)) = some false := by decide +kernel

/-- a rebuild closes it as well, and the rebuilt instance ignores the still-held key (C08) -/
def kinds (p : AppState × List Delivery) : List (Nat × Nat × EvKind) := p.2.map (fun d => (d.entity, d.action, d.kind))

example : ((applyOp demoSetup demoPressed .rebuild).map kinds) = some [(0, 0, EvKind.completed)] := by decide +kernel

/-- one shared context type held by two entities -/
def shareSetup : Setup :=
  { types := [{ id := 1, priority := 5, shared := true }],
    config := fun c _ =>
      ({ } : ContextInstance).bind c .a1 false .cumulative (fun ab => ab.to (.single { input := .key 0 {} })) }

def shareState : AppState := (runOps shareSetup {} [.spawn 0, .spawn 1, .insert 0 1 0, .insert 1 1 0]).getD {}
def shareIdle : AppState := ((frame shareSetup shareState {} { delta := 0, speed := 1 } [] [] 100).map (·.st)).getD {}

def recipients (o : FrameOut) : List (Nat × EvKind × Value) := o.deliveries.map (fun d => (d.entity, d.kind, d.value))

/-- C14: every event of the frame goes to both holders, once each, with the same payload (in the action's dimension, C01) -/
example : ((frame shareSetup shareIdle { keys := [0] } { delta := 1 / 64, speed := 1 } [] [] 100).map recipients) =
    some [(0, .started, .a1 1), (1, .started, .a1 1), (0, .fired, .a1 1), (1, .fired, .a1 1)] := by decide +kernel

/-- C10: two more held frames of 1/64 s and 1/32 s: elapsed and fired durations of the Fired events are the sums of the
    virtual deltas since the action left None -/
def held1 : AppState := ((frame shareSetup shareIdle { keys := [0] } { delta := 1 / 64, speed := 1 } [] [] 100).map (·.st)).getD {}
def held2 : AppState := ((frame shareSetup held1 { keys := [0] } { delta := 1 / 64, speed := 1 } [] [] 100).map (·.st)).getD {}

def durations (o : FrameOut) : List (Nat × EvKind × Option Rat × Option Rat) :=
  o.deliveries.map (fun d => (d.entity, d.kind, d.elapsed, d.fired))

example : ((frame shareSetup held2 { keys := [0] } { delta := 1 / 32, speed := 1 } [] [] 100).map durations) =
    some [(0, .fired, some (3 / 64), some (3 / 64)), (1, .fired, some (3 / 64), some (3 / 64))] := by decide +kernel

end BEI.Props.Witness
