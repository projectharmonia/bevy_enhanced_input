/-
  C17 — Input-disjoint contexts do not interfere; evaluation is deterministic.

  Determinism of the model is by construction (everything is a function); for the implementation it is part of the
  correspondence (every scenario is run twice in separate processes and must print identical traces).

  Non-interference is proved as a simulation.  For one action evaluation and the consumption it performs the relation is
  `Agree` (same gamepad selection, same readings on the kept inputs): `kept_action_step`, `disjoint_action_step`.  The lifting
  over context instances, groups and the whole registry, for arbitrary interleavings of kept and deleted (input-disjoint)
  context types, needs the relation under every gamepad selection a kept context uses: `AgreeOn`, with its own step lemmas
  (`agreeOn_consume_both/_left`), up to `registry_noninterference`.  The pairwise run comparison of the check exercises
  the same statement on the real crate.
-/
import BEI.Props.C05
import BEI.Proofs.Reg
namespace BEI.Props.C17

/-- two readers (with the same gamepad selection) are indistinguishable on a set `J` of inputs -/
def Agree (J : List Input) (r r' : Reader) : Prop :=
  r.device = r'.device ∧ ∀ j ∈ J, r.value j = r'.value j ∧ r.activeUnconsumed j = r'.activeUnconsumed j

theorem Agree.refl (J : List Input) (r : Reader) : Agree J r r := ⟨rfl, fun _ _ => ⟨rfl, rfl⟩⟩

/-- an input evaluation depends on the reader only through the reading and the physical activity of its own input -/
theorem evalInput_congr {r r' : Reader} (av : ActionsView) (t : Tick) {b : InputBind}
    (hv : r.value b.input = r'.value b.input) (ha : r.activeUnconsumed b.input = r'.activeUnconsumed b.input) :
    evalInput r av t b = evalInput r' av t b := by
  rw [evalInput, evalInput, hv, ha]

theorem loopInputs_congr (ab : ActionBind) {r r' : Reader} (av : ActionsView) (t : Tick) {bs : List InputBind} (acc : LoopAcc)
    (h : ∀ b ∈ bs, r.value b.input = r'.value b.input ∧ r.activeUnconsumed b.input = r'.activeUnconsumed b.input) :
    ab.loopInputs r av t acc bs = ab.loopInputs r' av t acc bs := by
  induction bs generalizing acc with
  | nil => rfl
  | cons b bs ih =>
    obtain ⟨⟨hv, ha⟩, hbs⟩ := List.forall_mem_cons.mp h
    simp only [ActionBind.loopInputs, ActionBind.stepInput_eq, evalInput_congr av t hv ha, ih _ hbs]

/-- an action reads the reader only at its bound inputs: against a reader that agrees with `r` on them the evaluation is
    that against `r`, with the consumed inputs consumed from the other reader -/
theorem update_congr_eq {ab : ActionBind} {r r' : Reader} (av : ActionsView) (t : Tick) (es : List Nat)
    (h : ∀ b ∈ ab.bindings, r.value b.input = r'.value b.input ∧ r.activeUnconsumed b.input = r'.activeUnconsumed b.input) :
    ab.update r' av t es = (ab.update r av t es).map fun o => { o with reader := o.consumed.foldl Reader.consume r' } := by
  rw [ActionBind.update_eq_map, ActionBind.update_eq_map, loopInputs_congr ab av t _ h]
  cases av.get? ab.action <;> rfl

/-- (1) an action evaluated against two readers that agree on its bound inputs computes the same data, deliveries,
    invocation log and consumes the same inputs — activity on any other input is invisible to it -/
theorem update_congr (ab : ActionBind) (r r' : Reader) (av : ActionsView) (t : Tick) (es : List Nat)
    (h : ∀ b ∈ ab.bindings, r.value b.input = r'.value b.input ∧ r.activeUnconsumed b.input = r'.activeUnconsumed b.input) :
    (ab.update r av t es).map (fun o => (o.actions, o.deliveries, o.log, o.consumed, o.eventsBlocked))
      = (ab.update r' av t es).map (fun o => (o.actions, o.deliveries, o.log, o.consumed, o.eventsBlocked)) := by
  rw [update_congr_eq av t es h, Option.map_map]
  rfl

/-- an action evaluated against two readers that agree on its inputs: the *whole* result is the same, except that each
    run consumes (the same inputs) from its own reader -/
theorem update_congr_full (ab : ActionBind) (r r' : Reader) (av : ActionsView) (t : Tick) (es : List Nat)
    (h : ∀ b ∈ ab.bindings, r.value b.input = r'.value b.input ∧ r.activeUnconsumed b.input = r'.activeUnconsumed b.input)
    (o : ActionBind.Out) (ho : ab.update r av t es = some o) :
    ab.update r' av t es = some { o with reader := o.consumed.foldl Reader.consume r' }
    ∧ o.reader = o.consumed.foldl Reader.consume r := by
  rw [update_congr_eq av t es h, ho]
  exact ⟨rfl, ActionBind.update_reader ho⟩

/-- what an action consumes are inputs it binds — so a context can only ever hide inputs in its own footprint -/
theorem consumed_subset_bound (ab : ActionBind) (r : Reader) (av : ActionsView) (t : Tick) (es : List Nat)
    (o : ActionBind.Out) (h : ab.update r av t es = some o) : ∀ i ∈ o.consumed, i ∈ ab.bindings.map (·.input) := by
  obtain ⟨_, hc⟩ := ab.update_char h
  intro i hi
  rw [hc.consumed] at hi
  split at hi
  · obtain ⟨e, he, rfl⟩ := List.mem_map.mp hi
    obtain ⟨b, hb, hbe⟩ := C05.evalAll_mem r av t _ e (List.mem_filter.mp he).1
    exact List.mem_map.mpr ⟨b, hb, (evalInput_spec hbe).input.symm⟩
  · cases hi

/-- … so a predicate on readers that survives the consumption of each input the action binds survives its update -/
theorem update_inv_of_bound {P : Reader → Prop} {ab : ActionBind} {r : Reader} {av : ActionsView} {t : Tick} {es : List Nat}
    {o : ActionBind.Out} (ho : ab.update r av t es = some o) (hc : ∀ x, ∀ b ∈ ab.bindings, P x → P (x.consume b.input))
    (hr : P r) : P o.reader := by
  rw [ActionBind.update_reader ho]
  refine List.foldlRecOn _ _ hr fun x hx i hi => ?_
  obtain ⟨b, hb, rfl⟩ := List.mem_map.mp (consumed_subset_bound ab r av t es o ho i hi)
  exact hc x b hb hx

/-- consuming the same input on both sides keeps the readers indistinguishable: a reading is either masked by the newly
    consumed input on both sides, or unchanged on both sides -/
theorem agree_consume_both (J : List Input) (r r' : Reader) (i : Input) (h : Agree J r r') :
    Agree J (r.consume i) (r'.consume i) := by
  refine ⟨by rw [Reader.consume_device, Reader.consume_device, h.1], fun j hj => ?_⟩
  rw [Reader.value_consume_self, Reader.value_consume_self, Reader.activeUnconsumed_consume,
    Reader.activeUnconsumed_consume, (h.2 j hj).1]
  exact ⟨rfl, (h.2 j hj).2⟩

/-- (2) consumption by a context whose inputs are disjoint from `J` — no shared key, button, motion, wheel, gamepad
    input or modifier key — is invisible on `J` -/
theorem agree_consume_disjoint (J : List Input) (r r' : Reader) (i : Input) (hdis : ∀ j ∈ J, C05.hides i j = false)
    (h : Agree J r r') : Agree J (r.consume i) r' := by
  refine ⟨by rw [Reader.consume_device, h.1], fun j hj => ?_⟩
  rw [C05.consume_keeps r i j (hdis j hj), Reader.activeUnconsumed_consume]
  exact h.2 j hj

/-- (3) one action of a kept context, evaluated against two readers that agree on the kept contexts' inputs `J`
    (which include its own): same results, and the readers agree on `J` again afterwards -/
theorem kept_action_step (J : List Input) (ab : ActionBind) (r r' : Reader) (av : ActionsView) (t : Tick) (es : List Nat)
    (hJ : ∀ b ∈ ab.bindings, b.input ∈ J) (h : Agree J r r') (o o' : ActionBind.Out)
    (ho : ab.update r av t es = some o) (ho' : ab.update r' av t es = some o') :
    o.actions = o'.actions ∧ o.deliveries = o'.deliveries ∧ o.log = o'.log ∧ Agree J o.reader o'.reader := by
  obtain ⟨ho2, hr⟩ := update_congr_full ab r r' av t es (fun b hb => h.2 b.input (hJ b hb)) o ho
  cases ho'.symm.trans ho2
  refine ⟨rfl, rfl, rfl, ?_⟩
  rw [hr]
  exact List.foldl_rel h fun i _ x x' hx => agree_consume_both J x x' i hx

/-- (4) one action of a deleted, input-disjoint context run on the left only: whatever it does, the readers still agree
    on the kept contexts' inputs -/
theorem disjoint_action_step (J : List Input) (ab : ActionBind) (r r' : Reader) (av : ActionsView) (t : Tick) (es : List Nat)
    (hdis : ∀ b ∈ ab.bindings, ∀ j ∈ J, C05.hides b.input j = false) (h : Agree J r r') (o : ActionBind.Out)
    (ho : ab.update r av t es = some o) : Agree J o.reader r' :=
  update_inv_of_bound (P := (Agree J · r')) ho (fun x b hb => agree_consume_disjoint J x r' b.input (hdis b hb)) h

/-- activity on inputs nobody binds: raw states that agree on the keys a binding names read the same (C15.key_congr),
    and a frame's result is a function of the raw input, the tick and the previous state — re-running gives the same trace -/
theorem deterministic (su : Setup) (st : AppState) (raw : RawInput) (t : Tick) (reacts : Reactions) (posts : List Op) (fuel : Nat) :
    ∀ o1 o2, frame su st raw t reacts posts fuel = some o1 → frame su st raw t reacts posts fuel = some o2 →
      o1.deliveries = o2.deliveries ∧ o1.log = o2.log := by
  intro o1 o2 h1 h2
  cases h1.symm.trans h2
  exact ⟨rfl, rfl⟩

/-! ## lifting the simulation over context instances, groups and the whole registry -/

theorem setGamepad_setGamepad (r : Reader) (d d' : Device) : (r.setGamepad d).setGamepad d' = r.setGamepad d' := rfl
theorem setGamepad_self (r : Reader) : r.setGamepad r.device = r := rfl

/-- reading `j` under selection `d` after `i` was consumed under the reader's own selection -/
theorem value_after_consume (r : Reader) (i j : Input) (d : Device) :
    ((r.consume i).setGamepad d).value j =
      (if hidesAt r.device d i j then C05.inactive j else (r.setGamepad d).value j) :=
  Reader.value_consume r i j d

theorem active_after_consume (r : Reader) (i : Input) (d : Device) :
    ((r.consume i).setGamepad d).activeUnconsumed = (r.setGamepad d).activeUnconsumed :=
  Reader.activeUnconsumed_congr (Reader.consume_raw r i) rfl

/-- the readers of the two runs are indistinguishable on the kept contexts' inputs `J` under every gamepad selection a kept
    context uses (`Ds`) -/
def AgreeOn (J : List Input) (Ds : List Device) (r r' : Reader) : Prop :=
  ∀ d ∈ Ds, ∀ j ∈ J, (r.setGamepad d).value j = (r'.setGamepad d).value j
    ∧ (r.setGamepad d).activeUnconsumed j = (r'.setGamepad d).activeUnconsumed j

theorem AgreeOn.refl (J : List Input) (Ds : List Device) (r : Reader) : AgreeOn J Ds r r := fun _ _ _ _ => ⟨rfl, rfl⟩

theorem AgreeOn.setGamepad {J : List Input} {Ds : List Device} {r r' : Reader} (h : AgreeOn J Ds r r') (d1 d2 : Device) :
    AgreeOn J Ds (r.setGamepad d1) (r'.setGamepad d2) := fun d hd j hj => h d hd j hj

/-- both runs consume the same input under the same gamepad selection -/
theorem agreeOn_consume_both (J : List Input) (Ds : List Device) (r r' : Reader) (i : Input) (hdev : r.device = r'.device)
    (h : AgreeOn J Ds r r') : AgreeOn J Ds (r.consume i) (r'.consume i) := by
  intro d hd j hj
  obtain ⟨h1, h2⟩ := h d hd j hj
  refine ⟨?_, by rw [active_after_consume, active_after_consume, h2]⟩
  rw [value_after_consume, value_after_consume, hdev, h1]

/-- only the run with the extra (deleted) contexts consumes `i`; it masks none of the kept inputs under any kept selection -/
theorem agreeOn_consume_left (J : List Input) (Ds : List Device) (r r' : Reader) (i : Input)
    (hdis : ∀ d ∈ Ds, ∀ j ∈ J, hidesAt r.device d i j = false) (h : AgreeOn J Ds r r') : AgreeOn J Ds (r.consume i) r' := by
  intro d hd j hj
  obtain ⟨h1, h2⟩ := h d hd j hj
  refine ⟨?_, by rw [active_after_consume, h2]⟩
  rw [value_after_consume, hdis d hd j hj]
  exact h1

/-- the action loop of a kept context, run against two agreeing readers with the same (kept) gamepad selection -/
theorem kept_loop (J : List Input) (Ds : List Device) (t : Tick) (es : List Nat) :
    ∀ (bs : List ActionBind) (x x' : Reader) (av : ActionsView) bs1 x1 av1 dl lg,
      (∀ ab ∈ bs, ∀ b ∈ ab.bindings, b.input ∈ J) → x.device = x'.device → x.device ∈ Ds → AgreeOn J Ds x x' →
      ContextInstance.loopActions x av t es bs = some (bs1, x1, av1, dl, lg) →
      ∃ x1', ContextInstance.loopActions x' av t es bs = some (bs1, x1', av1, dl, lg)
        ∧ x1.device = x1'.device ∧ AgreeOn J Ds x1 x1' := by
  intro bs x x' av bs1 x1 av1 dl lg hJ hd hDs h hl
  induction hl using ContextInstance.loopActions_induction generalizing x' with
  | nil => exact ⟨x', rfl, hd, h⟩
  | @cons x av ab rest o _ _ _ _ _ ho _ ih =>
    obtain ⟨hJab, hJrest⟩ := List.forall_mem_cons.mp hJ
    -- the readers agree on the action's inputs: `h` at the selection both already have
    obtain ⟨ho', hreader⟩ := update_congr_full ab x x' av t es (fun b hb => by
      simpa only [setGamepad_self, hd ▸ setGamepad_self x'] using h x.device hDs b.input (hJab b hb)) o ho
    have hstep : o.reader.device = (o.consumed.foldl Reader.consume x').device
        ∧ AgreeOn J Ds o.reader (o.consumed.foldl Reader.consume x') := by
      rw [hreader]
      exact List.foldl_rel (r := fun y y' => y.device = y'.device ∧ AgreeOn J Ds y y') ⟨hd, h⟩ fun i _ y y' hy =>
        ⟨by rw [Reader.consume_device, Reader.consume_device, hy.1], agreeOn_consume_both J Ds y y' i hy.1 hy.2⟩
    obtain ⟨x1', hl', hd', hag'⟩ := ih _ hJrest hstep.1
      (by rw [hreader, Reader.foldl_consume_device]; exact hDs) hstep.2
    -- `( … :)`: elaborate the equation on its own, then compare its record with the goal's up to reduction
    exact ⟨x1', (ContextInstance.loopActions_cons ho' hl' :), hd', hag'⟩

/-- the inputs a context instance binds -/
def instInputs (ci : ContextInstance) : List Input := ci.bindings.flatMap (fun ab => ab.bindings.map (·.input))

theorem mem_instInputs {ci : ContextInstance} {ab : ActionBind} {b : InputBind} (ha : ab ∈ ci.bindings) (hb : b ∈ ab.bindings) :
    b.input ∈ instInputs ci :=
  List.mem_flatMap.mpr ⟨ab, ha, List.mem_map_of_mem hb⟩

/-- the action loop of a deleted (input-disjoint) context, run on the left only -/
theorem deleted_loop (J : List Input) (Ds : List Device) (t : Tick) (es : List Nat) (x' : Reader) (dev : Device) :
    ∀ (bs : List ActionBind) (x : Reader) (av : ActionsView) bs1 x1 av1 dl lg,
      x.device = dev →
      (∀ ab ∈ bs, ∀ b ∈ ab.bindings, ∀ d ∈ Ds, ∀ j ∈ J, hidesAt dev d b.input j = false) → AgreeOn J Ds x x' →
      ContextInstance.loopActions x av t es bs = some (bs1, x1, av1, dl, lg) →
      x1.device = dev ∧ AgreeOn J Ds x1 x' := by
  intro bs x av bs1 x1 av1 dl lg hd hdis h hl
  induction hl using ContextInstance.loopActions_induction with
  | nil => exact ⟨hd, h⟩
  | @cons x av ab rest o _ _ _ _ _ ho _ ih =>
    obtain ⟨hab, hrest⟩ := List.forall_mem_cons.mp hdis
    have hstep : o.reader.device = dev ∧ AgreeOn J Ds o.reader x' :=
      update_inv_of_bound (P := fun y => y.device = dev ∧ AgreeOn J Ds y x') ho (fun y b hb hy =>
        ⟨(Reader.consume_device y _).trans hy.1, agreeOn_consume_left J Ds y x' b.input (hy.1 ▸ hab b hb) hy.2⟩) ⟨hd, h⟩
    exact ih hstep.1 hrest hstep.2

/-- a kept context instance evaluated in both runs: identical new instance, deliveries and invocation log -/
theorem kept_instance (J : List Input) (Ds : List Device) (ci : ContextInstance) (r r' : Reader) (t : Tick) (es : List Nat)
    (hJ : ∀ i ∈ instInputs ci, i ∈ J) (hDs : ci.gamepad ∈ Ds) (h : AgreeOn J Ds r r')
    (o : ContextInstance.Out) (ho : ci.update r t es = some o) :
    ∃ o', ci.update r' t es = some o' ∧ o'.inst = o.inst ∧ o'.deliveries = o.deliveries ∧ o'.log = o.log
      ∧ AgreeOn J Ds o.reader o'.reader := by
  obtain ⟨bs1, av1, hl, hi⟩ := ContextInstance.update_eq_some.mp ho
  obtain ⟨x1', hl', _, hag⟩ := kept_loop J Ds t es ci.bindings (r.setGamepad ci.gamepad) (r'.setGamepad ci.gamepad) ci.actions
    _ _ _ _ _ (fun ab ha b hb => hJ _ (mem_instInputs ha hb)) rfl hDs (h.setGamepad _ _) hl
  exact ⟨⟨o.inst, x1', o.deliveries, o.log⟩, ContextInstance.update_eq_some.mpr ⟨_, _, hl', hi⟩, rfl, rfl, rfl, hag⟩

/-- a deleted context instance evaluated in the left run only leaves the readers indistinguishable on the kept inputs -/
theorem deleted_instance (J : List Input) (Ds : List Device) (ci : ContextInstance) (r r' : Reader) (t : Tick) (es : List Nat)
    (hdis : ∀ i ∈ instInputs ci, ∀ d ∈ Ds, ∀ j ∈ J, hidesAt ci.gamepad d i j = false) (h : AgreeOn J Ds r r')
    (o : ContextInstance.Out) (ho : ci.update r t es = some o) : AgreeOn J Ds o.reader r' := by
  obtain ⟨_, _, hl, _⟩ := ContextInstance.update_eq_some.mp ho
  exact (deleted_loop J Ds t es r' ci.gamepad ci.bindings (r.setGamepad ci.gamepad) ci.actions _ _ _ _ _ rfl
    (fun ab ha b hb d hd j hj => hdis _ (mem_instInputs ha hb) d hd j hj)
    (h.setGamepad _ _) hl).2

/-! ### lifting over the registry -/

/-- the update of one group -/
def groupStep (t : Tick) (r : Reader) : Group → Option (Group × Reader × List Delivery × List Inv)
  | .exclusive ty is =>
    match Registry.updateExclusive r t is with
    | none => none
    | some (is', r', dl, lg) => some (.exclusive ty is', r', dl, lg)
  | .shared ty es ctx =>
    match ctx.update r t es with
    | none => none
    | some oc => some (.shared ty es oc.inst, oc.reader, oc.deliveries, oc.log)

section
variable {t : Tick} {r : Reader}

theorem groupStep_exclusive {ty is is' r1 dl lg} (hex : Registry.updateExclusive r t is = some (is', r1, dl, lg)) :
    groupStep t r (.exclusive ty is) = some (.exclusive ty is', r1, dl, lg) := by
  simp only [groupStep, hex]

theorem groupStep_shared {ty es ctx o} (hctx : ContextInstance.update ctx r t es = some o) :
    groupStep t r (.shared ty es ctx) = some (.shared ty es o.inst, o.reader, o.deliveries, o.log) := by
  simp only [groupStep, hctx]

/-- the two ways the update of a group succeeds (for `cases h using …`, like the induction principles of Proofs/Frame) -/
theorem groupStep_cases {motive : ∀ g g1 r1 dl lg, groupStep t r g = some (g1, r1, dl, lg) → Prop}
    (exclusive : ∀ {ty is is' r1 dl lg} (hex : Registry.updateExclusive r t is = some (is', r1, dl, lg)),
      motive (.exclusive ty is) (.exclusive ty is') r1 dl lg (groupStep_exclusive hex))
    (shared : ∀ {ty es ctx o} (hctx : ContextInstance.update ctx r t es = some o),
      motive (.shared ty es ctx) (.shared ty es o.inst) o.reader o.deliveries o.log (groupStep_shared hctx))
    {g g1 r1 dl lg} (h : groupStep t r g = some (g1, r1, dl, lg)) : motive g g1 r1 dl lg h := by
  cases g with
  | exclusive ty is =>
    cases hex : Registry.updateExclusive r t is with
    | none => simp [groupStep, hex] at h
    | some x =>
      cases (groupStep_exclusive hex).symm.trans h
      exact exclusive hex
  | shared ty es ctx =>
    cases hctx : ContextInstance.update ctx r t es with
    | none => simp [groupStep, hctx] at h
    | some o =>
      cases (groupStep_shared hctx).symm.trans h
      exact shared hctx

theorem update_cons_some {g g1 r1 dl lg rest o} (hs : groupStep t r g = some (g1, r1, dl, lg))
    (hrest : Registry.update r1 t rest = some o) :
    Registry.update r t (g :: rest)
      = some { o with reg := g1 :: o.reg, deliveries := dl ++ o.deliveries, log := lg ++ o.log } := by
  cases hs using groupStep_cases with
  | exclusive hex => exact Registry.update_exclusive hex hrest
  | shared hctx => exact Registry.update_shared hctx hrest

end

theorem update_groupStep_induction {t : Tick} {motive : ∀ r reg o, Registry.update r t reg = some o → Prop}
    (nil : ∀ r, motive r [] { reg := [], reader := r, deliveries := [], log := [] } rfl)
    (cons : ∀ {r g g1 r1 dl lg rest o} (hs : groupStep t r g = some (g1, r1, dl, lg))
      (hrest : Registry.update r1 t rest = some o), motive r1 rest o hrest →
      motive r (g :: rest) _ (update_cons_some hs hrest))
    {r reg o} (h : Registry.update r t reg = some o) : motive r reg o h := by
  induction h using Registry.update_induction with
  | nil r => exact nil r
  | exclusive hex hrest ih => exact cons (groupStep_exclusive hex) hrest ih
  | shared hctx hrest ih => exact cons (groupStep_shared hctx) hrest ih

/-- which groups are kept is decided by the context type -/
def keepG (keep : Nat → Bool) (g : Group) : Bool := keep g.ty.id

/-- what the kept contexts deliver and invoke in the full run -/
def keptRun (keep : Nat → Bool) (t : Tick) : Reader → Registry → List Delivery × List Inv
  | _, [] => ([], [])
  | r, g :: rest =>
    match groupStep t r g with
    | none => ([], [])
    | some (_, r1, dl, lg) =>
      let rec' := keptRun keep t r1 rest
      if keepG keep g then (dl ++ rec'.1, lg ++ rec'.2) else rec'

theorem keptRun_cons {keep : Nat → Bool} {t : Tick} {r g g1 r1 dl lg rest}
    (hs : groupStep t r g = some (g1, r1, dl, lg)) :
    keptRun keep t r (g :: rest) =
      if keepG keep g then (dl ++ (keptRun keep t r1 rest).1, lg ++ (keptRun keep t r1 rest).2) else keptRun keep t r1 rest := by
  simp only [keptRun, hs]

theorem keepG_groupStep {keep : Nat → Bool} {t : Tick} {r g g1 r1 dl lg} (h : groupStep t r g = some (g1, r1, dl, lg)) :
    keepG keep g1 = keepG keep g := by
  cases h using groupStep_cases with
  | exclusive => rfl
  | shared => rfl

theorem kept_exclusive {J : List Input} {Ds : List Device} {t : Tick} {is r r' is1 r1 dl lg}
    (hk : ∀ ci ∈ is.map (·.2), (∀ i ∈ instInputs ci, i ∈ J) ∧ ci.gamepad ∈ Ds) (h : AgreeOn J Ds r r')
    (hu : Registry.updateExclusive r t is = some (is1, r1, dl, lg)) :
    ∃ r1', Registry.updateExclusive r' t is = some (is1, r1', dl, lg) ∧ AgreeOn J Ds r1 r1' := by
  induction hu using Registry.updateExclusive_induction generalizing r' with
  | nil => exact ⟨r', rfl, h⟩
  | @cons r e ctx _ o _ _ _ _ ho _ ih =>
    obtain ⟨hc, hrest⟩ := List.forall_mem_cons.mp hk
    obtain ⟨o', ho', hi, hd, hl, hag⟩ := kept_instance J Ds ctx r r' t [e] hc.1 hc.2 h o ho
    obtain ⟨r1', hr', hag'⟩ := ih hrest hag
    exact ⟨r1', by rw [← hi, ← hd, ← hl]; exact Registry.updateExclusive_cons ho' hr', hag'⟩

theorem deleted_exclusive {J : List Input} {Ds : List Device} {t : Tick} {r' : Reader} {is r is1 r1 dl lg}
    (hk : ∀ ci ∈ is.map (·.2), ∀ i ∈ instInputs ci, ∀ d ∈ Ds, ∀ j ∈ J, hidesAt ci.gamepad d i j = false) (h : AgreeOn J Ds r r')
    (hu : Registry.updateExclusive r t is = some (is1, r1, dl, lg)) : AgreeOn J Ds r1 r' := by
  induction hu using Registry.updateExclusive_induction with
  | nil => exact h
  | @cons r e ctx _ o _ _ _ _ ho _ ih =>
    obtain ⟨hc, hrest⟩ := List.forall_mem_cons.mp hk
    exact ih hrest (deleted_instance J Ds ctx r r' t [e] hc h o ho)

/-- the kept contexts' inputs and gamepad selections are inside `J` / `Ds` -/
def KeptOK (J : List Input) (Ds : List Device) (g : Group) : Prop :=
  ∀ ci ∈ g.instances, (∀ i ∈ instInputs ci, i ∈ J) ∧ ci.gamepad ∈ Ds

/-- a deleted context is input-disjoint from the kept ones: under no kept gamepad selection does any of its inputs mask a
    kept input (no shared key, button, motion, wheel or modifier key; gamepad inputs only under a different selection) -/
def DeletedOK (J : List Input) (Ds : List Device) (g : Group) : Prop :=
  ∀ ci ∈ g.instances, ∀ i ∈ instInputs ci, ∀ d ∈ Ds, ∀ j ∈ J, hidesAt ci.gamepad d i j = false

theorem kept_group (J : List Input) (Ds : List Device) (t : Tick) (g : Group) (r r' : Reader) (hk : KeptOK J Ds g)
    (h : AgreeOn J Ds r r') (g1 : Group) (r1 : Reader) (dl : List Delivery) (lg : List Inv)
    (hs : groupStep t r g = some (g1, r1, dl, lg)) :
    ∃ r1', groupStep t r' g = some (g1, r1', dl, lg) ∧ AgreeOn J Ds r1 r1' := by
  cases hs using groupStep_cases with
  | exclusive hu =>
    obtain ⟨r1', hr', hag⟩ := kept_exclusive hk h hu
    exact ⟨r1', groupStep_exclusive hr', hag⟩
  | @shared ty es ctx oc hoc =>
    have hc := hk ctx List.mem_cons_self
    obtain ⟨o', ho', hi, hd, hl, hag⟩ := kept_instance J Ds ctx r r' t es hc.1 hc.2 h oc hoc
    exact ⟨o'.reader, by rw [← hi, ← hd, ← hl]; exact groupStep_shared ho', hag⟩

theorem deleted_group (J : List Input) (Ds : List Device) (t : Tick) (g : Group) (r r' : Reader) (hk : DeletedOK J Ds g)
    (h : AgreeOn J Ds r r') (g1 : Group) (r1 : Reader) (dl : List Delivery) (lg : List Inv)
    (hs : groupStep t r g = some (g1, r1, dl, lg)) : AgreeOn J Ds r1 r' := by
  cases hs using groupStep_cases with
  | exclusive hu => exact deleted_exclusive hk h hu
  | @shared ty es ctx oc hoc => exact deleted_instance J Ds ctx r r' t es (hk ctx List.mem_cons_self) h oc hoc

/-- (5) **non-interference over the whole registry**: run the frame update on a registry `reg` and on the sub-registry
    obtained by deleting the input-disjoint context types (`keep` false), from readers that agree on the kept contexts'
    inputs (in particular from the same raw input with an arbitrary amount of activity on inputs nobody binds). Then
    the second run succeeds as well, the kept groups end in the *same* state (all action data, all condition / modifier
    states), the kept contexts deliver the same events and invoke the same conditions and modifiers in the same order,
    and the readers still agree — for any interleaving of kept and deleted groups in the evaluation order. -/
theorem registry_noninterference (J : List Input) (Ds : List Device) (keep : Nat → Bool) (t : Tick) :
    ∀ (reg : Registry) (r r' : Reader) (o : Registry.Out),
      (∀ g ∈ reg, keepG keep g = true → KeptOK J Ds g) → (∀ g ∈ reg, keepG keep g = false → DeletedOK J Ds g) →
      AgreeOn J Ds r r' → Registry.update r t reg = some o →
      ∃ o', Registry.update r' t (reg.filter (keepG keep)) = some o'
        ∧ o'.reg = o.reg.filter (keepG keep)
        ∧ o'.deliveries = (keptRun keep t r reg).1 ∧ o'.log = (keptRun keep t r reg).2
        ∧ AgreeOn J Ds o.reader o'.reader := by
  intro reg r r' o hK hD h hu
  induction hu using update_groupStep_induction generalizing r' with
  | nil => exact ⟨_, rfl, rfl, rfl, rfl, h⟩
  | @cons r g g1 r1 dl lg rest orest hs hrest ih =>
    obtain ⟨hKg, hK'⟩ := List.forall_mem_cons.mp hK
    obtain ⟨hDg, hD'⟩ := List.forall_mem_cons.mp hD
    rw [keptRun_cons hs, List.filter_cons, List.filter_cons, keepG_groupStep hs]
    cases hk : keepG keep g
    · exact ih r' hK' hD' (deleted_group J Ds t g r r' (hDg hk) h g1 r1 dl lg hs)
    · obtain ⟨r1', hs', hag⟩ := kept_group J Ds t g r r' (hKg hk) h g1 r1 dl lg hs
      obtain ⟨o', ho', h1, h2, h3, h4⟩ := ih r1' hK' hD' hag
      exact ⟨_, update_cons_some hs' ho', congrArg (g1 :: ·) h1, congrArg (dl ++ ·) h2, congrArg (lg ++ ·) h3, h4⟩

end BEI.Props.C17
