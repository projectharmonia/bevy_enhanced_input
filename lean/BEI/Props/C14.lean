/-
  C14 — Shared contexts fan events out to all holders; exclusive ones stay isolated.
-/
import BEI.Proofs.Mirror
namespace BEI.Props.C14

/-- (1) fan-out of one action: every event of the frame is delivered exactly once to each element of the holder list
    (which has no duplicates, C07), with identical payload, and to nobody else -/
theorem fanout_exact (a : Nat) (d : ActionData) (es : List Nat) :
    triggerEvents a d es = d.events.flatMap (fun k => es.map (fun e => mkDelivery a d k e))
    ∧ (∀ x ∈ triggerEvents a d es, x.entity ∈ es)
    ∧ (∀ k ∈ d.events, ∀ e ∈ es, mkDelivery a d k e ∈ triggerEvents a d es)
    ∧ (∀ k e e', ({ mkDelivery a d k e with entity := e' } : Delivery) = mkDelivery a d k e') := by
  refine ⟨rfl, fun x => triggerEvents_entity, fun k hk e he => ?_, fun k e e' => by cases k <;> rfl⟩
  exact List.mem_flatMap.mpr ⟨k, hk, List.mem_map_of_mem he⟩

/-- each holder receives each event exactly once when the holder list has no duplicates -/
theorem fanout_once (a : Nat) (d : ActionData) (es : List Nat) (hnd : es.Nodup) (k : EvKind) (e : Nat) (he : e ∈ es) :
    (es.map (fun e' => mkDelivery a d k e')).count (mkDelivery a d k e) = 1 := by
  -- the deliveries differ in their `entity` field, so the mapped list has no duplicates either
  have hnd' : (es.map fun e' => mkDelivery a d k e').Nodup :=
    List.Pairwise.map _ (fun e₁ e₂ hne h => hne (by simpa only [mkDelivery_entity] using congrArg Delivery.entity h)) hnd
  rw [hnd'.count, if_pos (List.mem_map_of_mem he)]

/-- the deliveries of one `ActionBind::update` only ever go to the entities it was given -/
theorem update_recipients (ab : ActionBind) (r : Reader) (av : ActionsView) (t : Tick) (es : List Nat)
    (o : ActionBind.Out) (h : ab.update r av t es = some o) : ∀ x ∈ o.deliveries, x.entity ∈ es := by
  obtain ⟨_, _, _, hs⟩ := ActionBind.update_some h
  rw [hs.deliveries]
  split
  · simp
  · exact fun _ => triggerEvents_entity

theorem loopActions_recipients {t : Tick} {es : List Nat} {bs : List ActionBind} {r : Reader} {av : ActionsView} {bs' r' av' dl lg}
    (h : ContextInstance.loopActions r av t es bs = some (bs', r', av', dl, lg)) : ∀ x ∈ dl, x.entity ∈ es := by
  induction h using ContextInstance.loopActions_induction with
  | nil => simp
  | cons ho _ ih =>
    exact fun x hx => (List.mem_append.mp hx).elim (update_recipients _ _ _ _ _ _ ho x) (ih x)

/-- (2) a shared group is evaluated once per frame with its full holder list: its events reach exactly the holders;
    an exclusive group evaluates each per-entity instance with that entity alone -/
theorem shared_update_recipients (ctx : ContextInstance) (r : Reader) (t : Tick) (es : List Nat) (o : ContextInstance.Out)
    (h : ctx.update r t es = some o) : ∀ x ∈ o.deliveries, x.entity ∈ es := by
  obtain ⟨_, _, hl, _⟩ := ContextInstance.update_eq_some.mp h
  exact loopActions_recipients hl

theorem exclusive_update_isolated (t : Tick) :
    ∀ (is : List (Nat × ContextInstance)) (r : Reader) is' r' dl lg,
      Registry.updateExclusive r t is = some (is', r', dl, lg) →
      (∀ x ∈ dl, x.entity ∈ is.map (·.1))
      ∧ is'.map (·.1) = is.map (·.1) := by
  intro is r is' r' dl lg h
  refine ⟨?_, Registry.updateExclusive_entities h⟩
  induction h using Registry.updateExclusive_induction with
  | nil => simp
  | cons ho _ ih =>
    intro x hx
    rcases List.mem_append.mp hx with hx | hx
    · exact List.mem_cons.mpr (.inl (List.mem_singleton.mp (shared_update_recipients _ _ _ _ _ ho x hx)))
    · exact List.mem_cons_of_mem _ (ih x hx)

/-- (3) exclusive instances evolve independently apart from input consumption: the new state of the instance of entity
    `e` is a function of its own previous state, the reader as it stands at its turn, and the tick — nothing of the other
    instances' states enters (they only act through the reader) -/
theorem exclusive_independent (r : Reader) (t : Tick) (e : Nat) (ctx : ContextInstance) (rest : List (Nat × ContextInstance)) :
    Registry.updateExclusive r t ((e, ctx) :: rest) =
      match ctx.update r t [e] with
      | none => none
      | some o =>
        match Registry.updateExclusive o.reader t rest with
        | none => none
        | some (rest', r', dl, lg) => some ((e, o.inst) :: rest', r', o.deliveries ++ dl, o.log ++ lg) := by rfl

/-- the holder list a shared instance fans out to has no duplicates in every reachable state (from the registry invariant) -/
theorem holders_nodup (su : Setup) (st : AppState) (h : Reachable su st) (g : Group) (hg : g ∈ st.reg) : g.entities.Nodup :=
  h.mirror.wf.nodup (g.ty, g.entities) (List.mem_map_of_mem hg)

end BEI.Props.C14
