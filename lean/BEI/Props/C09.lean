/-
  C09 — Input is reflected in actions and events within the same frame, before Update (*partial*: Bevy's executor,
  its sync-point insertion and the internals of `InputSystem` are modelled by `BEI.Sched`, not verified; the hypotheses
  of the theorems below are the facts the harness reads off the real schedule graph on every run).
-/
import BEI.Model.Sched
import BEI.Props.C01
namespace BEI.Props.C09
open BEI.Sched

variable {R E D : Type}

section
variable (absorb : R → E → R) (ne : E) (eval : R → D)

theorem runAll_append (w : Sched.World R E D) (l₁ l₂ : List PSys) :
    runAll absorb ne eval w (l₁ ++ l₂) = runAll absorb ne eval (runAll absorb ne eval w l₁) l₂ :=
  List.foldl_append

theorem runAll_singleton (w : Sched.World R E D) (s : PSys) : runAll absorb ne eval w [s] = runSys absorb ne eval w s := rfl

theorem runAll_others {l : List PSys} (h : ∀ x ∈ l, ∃ n, x = PSys.other n) (w : Sched.World R E D) :
    runAll absorb ne eval w l = w := by
  induction l with
  | nil => rfl
  | cons x xs ih =>
    obtain ⟨n, rfl⟩ := h x List.mem_cons_self
    exact ih fun y hy => h y (List.mem_cons_of_mem _ hy)

end

/-- (1) same frame: in **every** linearisation of `PreUpdate` that respects the two edges, the systems ordered after the
    crate's set (and therefore everything in `Update`, which runs after `PreUpdate`) see the deliveries computed from the
    input that reached the input resources in *this* frame: events sent before the frame, direct mutations between
    frames, and mutations made by systems in `First` (all of which are in `w.res` / `w.events` when `PreUpdate` starts) -/
theorem c09_same_frame (absorb : R → E → R) (ne : E) (eval : R → D) (w : Sched.World R E D) (lin : List PSys)
    (hw : w.probed = []) (h : Respects lin) :
    (runAll absorb ne eval w lin).probed = [some (eval (absorb w.res w.events))]
    ∧ (runAll absorb ne eval w lin).delivered = some (eval (absorb w.res w.events)) := by
  obtain ⟨a, b, c, d, rfl, hoth⟩ := h.shape
  simp only [List.forall_mem_append] at hoth
  obtain ⟨⟨⟨ha, hb⟩, hc⟩, hd⟩ := hoth
  simp only [runAll_append, runAll_singleton, runAll_others absorb ne eval ha, runAll_others absorb ne eval hb,
    runAll_others absorb ne eval hc, runAll_others absorb ne eval hd, runSys, hw, List.nil_append, and_self]

/-- (2) the edge `InputSystem → EnhancedInputSystem` is needed (the hypothesis is not vacuous): without it there is a
    linearisation in which the crate evaluates stale resources — the events of this frame are reflected one frame late -/
theorem c09_edge_needed (absorb : R → E → R) (ne : E) (eval : R → D) (w : Sched.World R E D) (hw : w.probed = []) :
    (runAll absorb ne eval w [PSys.eis, PSys.input, PSys.probe]).probed = [some (eval w.res)] := by
  simp [runAll, runSys, hw]

/-- the facts required of the real schedule; the check compares the harness' `sched` line with these on every run -/
def requiredFacts : Facts := { eisInPreUpdate := true, inputBeforeEis := true, preUpdateBeforeUpdate := true }

theorem steady_state_no_edge_events (s : AState) :
    EvKind.started ∉ eventsOf s s ∧ EvKind.canceled ∉ eventsOf s s ∧ EvKind.completed ∉ eventsOf s s := by
  rw [C01.eventsOf_eq_doc]
  cases s <;> decide

/-- (3) second sentence of C09: `Started`, `Canceled` and `Completed` are only ever delivered on a change of the
    action's state, so a frame in which no condition changes its result delivers none of them -/
theorem edge_events_need_state_change (p c : AState) (k : EvKind) (hk : k = .started ∨ k = .canceled ∨ k = .completed)
    (hmem : k ∈ eventsOf p c) : p ≠ c := by
  rintro rfl
  obtain ⟨h1, h2, h3⟩ := steady_state_no_edge_events p
  rcases hk with rfl | rfl | rfl
  · exact h1 hmem
  · exact h2 hmem
  · exact h3 hmem

end BEI.Props.C09
