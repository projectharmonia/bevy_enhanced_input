/-
  What `trigger_removed` delivers, and what `add` / `remove` / `rebuild` / `update` do to the context registry.
  Also the vocabulary the statements about the registry use: `SortedDesc`, `shape`, `Group.instances`, `Group.ctxOf`.
  `Group.push / remove / rebuild` say what the three operations do inside the group they find, `Group.new` is the group
  `add` makes when it finds none, `Registry.put` is how a changed group goes back into the registry (one left without
  holders is dropped); `Registry.add_eq`, `Registry.remove_eq`, `Registry.rebuild_eq` reduce the operations to them, and
  the invariants' proofs go through these equations and the `_spec` / `_char` lemmas, not through the inline code of the
  model.
-/
import BEI.Proofs.Frame
import BEI.Proofs.Swap
namespace BEI

/-! ### what `trigger_removed` delivers -/

theorem ContextInstance.triggerRemoved_eq (ci : ContextInstance) (t : Tick) (es : List Nat) :
    ci.triggerRemoved t es =
      if ∀ ab ∈ ci.bindings, (ci.actions.get? ab.action).isSome then
        some (ci.bindings.flatMap fun ab => (ci.actions.get? ab.action).elim [] fun d =>
          triggerEvents ab.action (d.update t .none (Value.zero ab.dim)) es)
      else none := by
  suffices key : ∀ (bs : List ActionBind) (acc : List Delivery),
      bs.foldlM (fun acc ab => match ci.actions.get? ab.action with
        | none => none
        | some d => some (acc ++ triggerEvents ab.action (d.update t .none (Value.zero ab.dim)) es)) acc =
      if ∀ ab ∈ bs, (ci.actions.get? ab.action).isSome then
        some (acc ++ bs.flatMap fun ab => (ci.actions.get? ab.action).elim [] fun d =>
          triggerEvents ab.action (d.update t .none (Value.zero ab.dim)) es)
      else none from key ci.bindings []
  intro bs
  induction bs with
  | nil => intro acc; simp
  | cons b bs ih =>
    intro acc
    rw [List.foldlM_cons]
    simp only [List.forall_mem_cons, List.flatMap_cons]
    cases hb : ci.actions.get? b.action with
    | none => exact (if_neg fun h => nomatch h.1).symm
    | some d =>
      simp only [Option.isSome_some, true_and, Option.elim_some, ← List.append_assoc]
      exact ih _

theorem ContextInstance.triggerRemoved_entity {ci : ContextInstance} {t : Tick} {es : List Nat} {dl : List Delivery}
    (h : ci.triggerRemoved t es = some dl) : ∀ x ∈ dl, x.entity ∈ es := by
  rw [ContextInstance.triggerRemoved_eq] at h
  split at h <;> cases h
  intro x hx
  obtain ⟨ab, _, hx⟩ := List.mem_flatMap.mp hx
  cases hd : ci.actions.get? ab.action with
  | none => rw [hd] at hx; cases hx
  | some d => rw [hd] at hx; exact triggerEvents_entity hx

/-! ### the registry -/

/-- groups are ordered by descending priority -/
def SortedDesc (reg : Registry) : Prop := reg.Pairwise (fun a b => a.ty.priority ≥ b.ty.priority)

abbrev Shape := List (CtxType × List Nat)

def shape (reg : Registry) : Shape := reg.map (fun g => (g.ty, g.entities))

/-- a list around its `i`-th element, and `set` there -/
theorem split_getElem? {α : Type _} {l : List α} {i : Nat} {x : α} (h : l[i]? = some x) :
    l = l.take i ++ x :: l.drop (i + 1) ∧ ∀ y, l.set i y = l.take i ++ y :: l.drop (i + 1) := by
  obtain ⟨hi, rfl⟩ := List.getElem?_eq_some_iff.mp h
  exact ⟨by rw [List.getElem_cons_drop, List.take_append_drop], fun y => by rw [List.set_eq_take_append_cons_drop, if_pos hi]⟩

theorem modify_eq_set {α : Type _} {l : List α} {i : Nat} {x : α} (h : l[i]? = some x) (f : α → α) :
    l.modify i f = l.set i (f x) := by
  obtain ⟨hi, rfl⟩ := List.getElem?_eq_some_iff.mp h
  rw [List.modify_eq_take_cons_drop hi, List.set_eq_take_append_cons_drop, if_pos hi]

theorem SortedDesc.insert {reg : Registry} (h : SortedDesc reg) (g : Group) :
    SortedDesc (reg.take (reg.insertPos g.ty.priority) ++ [g] ++ reg.drop (reg.insertPos g.ty.priority)) := by
  unfold Registry.insertPos SortedDesc at *
  induction reg with
  | nil => exact List.pairwise_singleton ..
  | cons x xs ih =>
    obtain ⟨hx, hxs⟩ := List.pairwise_cons.mp h
    by_cases hp : x.ty.priority > g.ty.priority
    · -- `x` stays in front: it is above `g` and above everything behind it
      simp only [List.takeWhile_cons, hp, decide_true, ↓reduceIte, List.length_cons, List.take_succ_cons,
        List.drop_succ_cons, List.cons_append, List.pairwise_cons]
      refine ⟨fun b hb => ?_, ih hxs⟩
      rcases List.mem_append.mp hb with hb | hb
      · rcases List.mem_append.mp hb with hb | hb
        · exact hx b (List.mem_of_mem_take hb)
        · cases List.mem_singleton.mp hb; exact Int.le_of_lt hp
      · exact hx b (List.mem_of_mem_drop hb)
    · -- `g` goes in front of `x`, which is at most `g` and above the rest
      simp only [List.takeWhile_cons, hp, decide_false, Bool.false_eq_true, ↓reduceIte, List.length_nil, List.take_zero,
        List.drop_zero, List.nil_append, List.singleton_append, List.pairwise_cons]
      have hle := Int.not_lt.mp hp
      exact ⟨fun b hb => by rcases List.mem_cons.mp hb with rfl | hb; exact hle; exact Int.le_trans (hx b hb) hle, hx, hxs⟩

/-- sortedness is a property of the list of priorities, and passes to sublists of it -/
theorem SortedDesc.of_sublist {a b : Registry} (hs : SortedDesc a)
    (h : (b.map (·.ty.priority)).Sublist (a.map (·.ty.priority))) : SortedDesc b :=
  List.pairwise_map.mp ((List.pairwise_map.mpr hs).sublist h)

theorem SortedDesc.of_shape_eq {a b : Registry} (hs : SortedDesc a) (h : shape b = shape a) : SortedDesc b := by
  have := congrArg (List.map (·.1.priority)) h
  simp only [shape, List.map_map] at this
  exact hs.of_sublist (this ▸ List.Sublist.refl _)

theorem map_set_same {α β : Type _} (f : α → β) {l : List α} {i : Nat} {y : α} (h : l[i]? = some y) {x : α} (hxy : f x = f y) :
    (l.set i x).map f = l.map f := by
  obtain ⟨hi, rfl⟩ := List.getElem?_eq_some_iff.mp h
  rw [List.map_set, hxy, ← List.getElem_map f (h := by rwa [List.length_map]), List.set_getElem_self]

theorem SortedDesc.set {reg : Registry} {gi : Nat} {g g' : Group} (hs : SortedDesc reg) (hg : reg[gi]? = some g)
    (hty : g'.ty = g.ty) : SortedDesc (reg.set gi g') :=
  hs.of_sublist (map_set_same (·.ty.priority) hg (congrArg (·.priority) hty) ▸ .refl _)

/-- the registry with `g'` in place of its `gi`-th group; a group left without holders is dropped -/
def Registry.put (reg : Registry) (gi : Nat) (g' : Group) : Registry :=
  if g'.entities.isEmpty then reg.eraseIdx gi else reg.set gi g'

theorem Registry.put_of_ne_nil (reg : Registry) (gi : Nat) {g' : Group} (h : g'.entities ≠ []) :
    reg.put gi g' = reg.set gi g' :=
  if_neg fun he => h (List.isEmpty_iff.mp he)

theorem SortedDesc.put {reg : Registry} {gi : Nat} {g g' : Group} (hs : SortedDesc reg) (hg : reg[gi]? = some g)
    (hty : g'.ty = g.ty) : SortedDesc (reg.put gi g') := by
  unfold Registry.put
  split
  · exact hs.sublist (List.eraseIdx_sublist reg gi)
  · exact hs.set hg hty

def Group.instances : Group → List ContextInstance
  | .exclusive _ is => is.map (·.2)
  | .shared _ _ ctx => [ctx]

/-- what `add` does to the group it has found -/
def Group.push (g : Group) (e : Nat) (ci : ContextInstance) : Group :=
  match g with
  | .exclusive t is => .exclusive t (is ++ [(e, ci)])
  | .shared t es ctx => .shared t (es ++ [e]) ctx

/-- the group `add` makes for the first holder of a type -/
def Group.new (mk : Factory) (ty : CtxType) (e : Nat) : Group :=
  if ty.shared then .shared ty [e] (mk ty.id e) else .exclusive ty [(e, mk ty.id e)]

theorem Registry.add_eq (reg : Registry) (mk : Factory) (ty : CtxType) (e : Nat) :
    reg.add mk ty e = match reg.index ty.id with
      | some i => reg.modify i (·.push e (mk ty.id e))
      | none => reg.take (reg.insertPos ty.priority) ++ [Group.new mk ty e] ++ reg.drop (reg.insertPos ty.priority) := by
  rfl

theorem Group.new_spec (mk : Factory) (ty : CtxType) (e : Nat) :
    (Group.new mk ty e).ty = ty ∧ (Group.new mk ty e).entities = [e] ∧ (Group.new mk ty e).instances = [mk ty.id e] := by
  unfold Group.new; cases ty.shared <;> exact ⟨rfl, rfl, rfl⟩

theorem Group.push_spec (g : Group) (e : Nat) (ci : ContextInstance) :
    (g.push e ci).ty = g.ty ∧ (g.push e ci).entities = g.entities ++ [e]
      ∧ ∀ x ∈ (g.push e ci).instances, x ∈ g.instances ∨ x = ci := by
  cases g with
  | exclusive ty is =>
    refine ⟨rfl, List.map_append, fun x hx => ?_⟩
    rw [Group.push, Group.instances, List.map_append, List.mem_append] at hx
    exact hx.imp_right List.mem_singleton.mp
  | shared ty es ctx => exact ⟨rfl, rfl, fun x => .inl⟩

theorem Registry.index_eq_findIdx? (reg : Registry) (c : Nat) : reg.index c = reg.findIdx? (·.ty.id == c) := by
  simp only [Registry.index, List.findIdx?_eq_guard_findIdx_lt, Option.guard, decide_eq_true_eq]

theorem Registry.index_spec {reg : Registry} {c gi : Nat} (h : reg.index c = some gi) :
    ∃ g, reg[gi]? = some g ∧ g.ty.id = c := by
  obtain ⟨hlt, hp, _⟩ := List.findIdx?_eq_some_iff_getElem.mp (reg.index_eq_findIdx? c ▸ h)
  exact ⟨_, List.getElem?_eq_getElem hlt, beq_iff_eq.mp hp⟩

theorem Registry.index_eq_none {reg : Registry} {c : Nat} (h : reg.index c = none) : ∀ g ∈ reg, g.ty.id ≠ c :=
  fun g hg => beq_eq_false_iff_ne.mp (List.findIdx?_eq_none_iff.mp (reg.index_eq_findIdx? c ▸ h) g hg)

theorem Registry.add_char (reg : Registry) (mk : Factory) (ty : CtxType) (e : Nat) :
    (∃ i g, reg[i]? = some g ∧ g.ty.id = ty.id ∧ reg.add mk ty e = reg.put i (g.push e (mk ty.id e)))
    ∨ ((∀ g ∈ reg, g.ty.id ≠ ty.id)
        ∧ reg.add mk ty e =
          reg.take (reg.insertPos ty.priority) ++ [Group.new mk ty e] ++ reg.drop (reg.insertPos ty.priority)) := by
  rw [Registry.add_eq]
  cases hi : reg.index ty.id with
  | some i =>
    obtain ⟨g, hg, hid⟩ := Registry.index_spec hi
    exact .inl ⟨i, g, hg, hid, (modify_eq_set hg _).trans (reg.put_of_ne_nil i (by simp [(g.push_spec e _).2.1])).symm⟩
  | none => exact .inr ⟨Registry.index_eq_none hi, rfl⟩

theorem SortedDesc.add {reg : Registry} (h : SortedDesc reg) (mk : Factory) (ty : CtxType) (e : Nat) :
    SortedDesc (reg.add mk ty e) := by
  rcases Registry.add_char reg mk ty e with ⟨i, g, hg, _, hadd⟩ | ⟨_, hadd⟩
  · exact hadd ▸ h.put hg (g.push_spec e _).1
  · have := h.insert (Group.new mk ty e)
    rwa [(Group.new_spec mk ty e).1, ← hadd] at this

/-- the instance a group holds for an entity -/
def Group.ctxOf (g : Group) (e : Nat) : Option ContextInstance :=
  match g with
  | .exclusive _ is => (is.find? (fun p => p.1 == e)).map (·.2)
  | .shared _ es ctx => if es.contains e then some ctx else none

theorem Group.ctxOf_isSome {g : Group} {e : Nat} : (g.ctxOf e).isSome ↔ e ∈ g.entities := by
  cases g with
  | exclusive ty is =>
    rw [Group.ctxOf, Option.isSome_map, List.find?_isSome, Group.entities, List.mem_map]
    exact exists_congr fun p => and_congr_right fun _ => beq_iff_eq
  | shared ty es ctx => exact Option.isSome_ite.trans List.contains_iff_mem

theorem Group.ctxOf_mem_instances {g : Group} {e : Nat} {ctx : ContextInstance} (h : g.ctxOf e = some ctx) :
    ctx ∈ g.instances := by
  cases g with
  | exclusive ty is =>
    obtain ⟨p, hp, rfl⟩ := Option.map_eq_some_iff.mp h
    exact List.mem_map_of_mem (List.mem_of_find?_eq_some hp)
  | shared ty es ctx' =>
    obtain ⟨-, ⟨⟩⟩ := Option.ite_none_right_eq_some.mp h
    exact List.mem_singleton.mpr rfl

/-- what `remove` does inside the group it has found: the instance it closes, and what is left of the group -/
def Group.remove (g : Group) (e : Nat) : Option (ContextInstance × Group) :=
  match g with
  | .exclusive ty is =>
    is[is.findIdx (fun p => p.1 == e)]?.map fun p => (p.2, .exclusive ty (swapRemove is (is.findIdx (fun p => p.1 == e))))
  | .shared ty es ctx =>
    if es.findIdx (· == e) < es.length then some (ctx, .shared ty (swapRemove es (es.findIdx (· == e))) ctx) else none

/-- `remove` is: find the group, take the entity out of it, close its instance, put back what is left -/
theorem Registry.remove_eq (reg : Registry) (t : Tick) (c e : Nat) :
    reg.remove t c e = (reg.index c).bind fun gi => reg[gi]?.bind fun g => (g.remove e).bind fun x =>
      (x.1.triggerRemoved t [e]).map fun dl => (reg.put gi x.2, dl) := by
  unfold Registry.remove Registry.put
  cases reg.index c with
  | none => rfl
  | some gi =>
    dsimp only [Option.bind_some]
    cases reg[gi]? with
    | none => rfl
    | some g =>
      cases g with
      | exclusive ty is =>
        dsimp only [Option.bind_some, Group.remove]
        cases is[is.findIdx fun p => p.1 == e]? with
        | none => rfl
        | some p =>
          dsimp only [Option.map_some, Option.bind_some]
          cases p.2.triggerRemoved t [e] with
          | none => rfl
          | some dl =>
            rw [Option.map_some, Group.entities, List.isEmpty_map]
            exact (apply_ite (fun r => some (r, dl)) ..).symm
      | shared ty es ctx =>
        dsimp only [Option.bind_some, Group.remove]
        by_cases hlt : es.findIdx (· == e) < es.length
        · rw [if_pos hlt, if_pos hlt]
          dsimp only [Option.bind_some]
          cases ctx.triggerRemoved t [e] with
          | none => rfl
          | some dl => exact (apply_ite (fun r => some (r, dl)) ..).symm
        · rw [if_neg hlt, if_neg hlt]
          rfl

theorem Group.remove_spec {g g' : Group} {e : Nat} {ctx : ContextInstance} (h : g.remove e = some (ctx, g')) :
    g.ctxOf e = some ctx ∧ g'.ty = g.ty ∧ g'.entities.Perm (g.entities.erase e)
      ∧ ∀ ci ∈ g'.instances, ci ∈ g.instances := by
  cases g with
  | exclusive ty is =>
    simp only [Group.remove, Option.map_eq_some_iff] at h
    obtain ⟨p, hp, rfl, rfl⟩ := h
    have hlt := (List.getElem?_eq_some_iff.mp hp).1
    refine ⟨by rw [Group.ctxOf, List.find?_eq_getElem?_findIdx, hp]; rfl, rfl, ?_, ?_⟩
    · have := swapRemove_erase (l := is.map (·.1)) (e := e) (by rwa [List.findIdx_map, List.length_map])
      rwa [List.findIdx_map, ← swapRemove_map] at this
    · rw [Group.instances, swapRemove_map]
      have hlt' : is.findIdx (fun p => p.1 == e) < (is.map (·.2)).length := by rwa [List.length_map]
      exact fun ci h => List.mem_of_mem_eraseIdx ((swapRemove_perm hlt').mem_iff.mp h)
  | shared ty es ctx' =>
    obtain ⟨hlt, ⟨⟩⟩ := Option.ite_none_right_eq_some.mp h
    obtain ⟨x, hx, hxe⟩ := List.findIdx_lt_length.mp hlt
    cases beq_iff_eq.mp hxe
    exact ⟨if_pos (List.contains_iff_mem.mpr hx), rfl, swapRemove_erase hlt, fun _ h => h⟩

theorem Group.remove_isSome {g : Group} {e : Nat} (h : e ∈ g.entities) : (g.remove e).isSome := by
  cases g with
  | exclusive ty is =>
    obtain ⟨p, hp, rfl⟩ := List.mem_map.mp h
    rw [Group.remove, Option.isSome_map, List.findIdx_getElem?_eq_getElem_of_exists ⟨p, hp, beq_self_eq_true p.1⟩]
    rfl
  | shared ty es ctx =>
    rw [Group.remove, if_pos (List.findIdx_lt_length (p := fun x => x == e) (xs := es) |>.mpr ⟨e, h, beq_self_eq_true e⟩)]
    rfl

theorem Registry.remove_char {reg reg' : Registry} {t : Tick} {c e : Nat} {dl : List Delivery}
    (hr : reg.remove t c e = some (reg', dl)) :
    ∃ gi g ctx g', reg.index c = some gi ∧ reg[gi]? = some g ∧ g.remove e = some (ctx, g')
      ∧ ctx.triggerRemoved t [e] = some dl ∧ reg' = reg.put gi g' := by
  simp only [Registry.remove_eq, Option.bind_eq_some_iff, Option.map_eq_some_iff] at hr
  obtain ⟨gi, hi, g, hg, ⟨ctx, g'⟩, hrem, dl', htr, rfl, rfl⟩ := hr
  exact ⟨gi, g, ctx, g', hi, hg, hrem, htr, rfl⟩

theorem SortedDesc.remove {reg reg' : Registry} {t : Tick} {c e : Nat} {dl : List Delivery}
    (h : SortedDesc reg) (hr : reg.remove t c e = some (reg', dl)) : SortedDesc reg' := by
  obtain ⟨gi, g, ctx, g', _, hg, hrem, _, rfl⟩ := Registry.remove_char hr
  exact h.put hg (Group.remove_spec hrem).2.1

theorem Registry.rebuildExclusive_eq (mk : Factory) (t : Tick) (c : Nat) (is : List (Nat × ContextInstance)) :
    Registry.rebuildExclusive mk t c is =
      if ∀ p ∈ is, (p.2.triggerRemoved t [p.1]).isSome then
        some (is.map fun p => (p.1, mk c p.1), is.flatMap fun p => (p.2.triggerRemoved t [p.1]).getD [])
      else none := by
  induction is with
  | nil => rfl
  | cons p ps ih =>
    rw [Registry.rebuildExclusive, ih]
    cases hp : p.2.triggerRemoved t [p.1] with
    | none => exact (if_neg fun h => nomatch hp ▸ h p List.mem_cons_self).symm
    | some dl =>
      by_cases hps : ∀ q ∈ ps, (q.2.triggerRemoved t [q.1]).isSome
      · rw [if_pos hps, if_pos (List.forall_mem_cons.mpr ⟨hp ▸ rfl, hps⟩), List.flatMap_cons, hp]; rfl
      · rw [if_neg hps, if_neg fun h => hps (List.forall_mem_cons.mp h).2]

/-- what `rebuild` does to the group it has found -/
def Group.rebuild (g : Group) (mk : Factory) (t : Tick) (c : Nat) : Option (Group × List Delivery) :=
  match g with
  | .exclusive ty is => (Registry.rebuildExclusive mk t c is).map fun x => (.exclusive ty x.1, x.2)
  | .shared ty es ctx =>
    match ctx.triggerRemoved t es, es.head? with
    | some dl, some e0 => some (.shared ty es (mk c e0), dl)
    | _, _ => none

theorem Registry.rebuild_eq (reg : Registry) (mk : Factory) (t : Tick) (c : Nat) :
    reg.rebuild mk t c = match reg.index c with
      | none => some (reg, [])
      | some gi => reg[gi]?.bind fun g => (g.rebuild mk t c).map fun x => (reg.set gi x.1, x.2) := by
  unfold Registry.rebuild
  cases reg.index c with
  | none => rfl
  | some gi =>
    dsimp only
    cases reg[gi]? with
    | none => rfl
    | some g =>
      cases g with
      | exclusive ty is =>
        dsimp only [Option.bind_some, Group.rebuild]
        cases Registry.rebuildExclusive mk t c is <;> rfl
      | shared ty es ctx =>
        dsimp only [Option.bind_some, Group.rebuild]
        cases ctx.triggerRemoved t es <;> cases es.head? <;> rfl

theorem Group.rebuild_spec {g g' : Group} {mk : Factory} {t : Tick} {c : Nat} {dl : List Delivery}
    (h : g.rebuild mk t c = some (g', dl)) :
    g'.ty = g.ty ∧ g'.entities = g.entities ∧ ∀ ci ∈ g'.instances, ∃ e, ci = mk c e := by
  cases g with
  | exclusive ty is =>
    simp only [Group.rebuild, Option.map_eq_some_iff] at h
    obtain ⟨⟨is', dl'⟩, hre, rfl, rfl⟩ := h
    rw [Registry.rebuildExclusive_eq] at hre
    obtain ⟨-, ⟨⟩⟩ := Option.ite_none_right_eq_some.mp hre
    refine ⟨rfl, List.map_map, ?_⟩
    simp only [Group.instances, List.map_map, List.mem_map]
    rintro ci ⟨p, _, rfl⟩
    exact ⟨p.1, rfl⟩
  | shared ty es ctx =>
    simp only [Group.rebuild] at h
    split at h <;> cases h
    exact ⟨rfl, rfl, fun ci h => ⟨_, List.mem_singleton.mp h⟩⟩

theorem Registry.rebuild_char {reg reg' : Registry} {mk : Factory} {t : Tick} {c : Nat} {dl : List Delivery}
    (hr : reg.rebuild mk t c = some (reg', dl)) :
    reg' = reg ∨ ∃ gi g g', reg[gi]? = some g ∧ g.rebuild mk t c = some (g', dl) ∧ reg' = reg.set gi g' := by
  rw [Registry.rebuild_eq] at hr
  split at hr
  · cases hr; exact Or.inl rfl
  · simp only [Option.bind_eq_some_iff, Option.map_eq_some_iff] at hr
    obtain ⟨g, hg, ⟨g', dl'⟩, hre, rfl, rfl⟩ := hr
    exact Or.inr ⟨_, g, g', hg, hre, rfl⟩

theorem Registry.rebuild_shape {reg reg' : Registry} {mk : Factory} {t : Tick} {c : Nat} {dl : List Delivery}
    (hr : reg.rebuild mk t c = some (reg', dl)) : shape reg' = shape reg := by
  rcases Registry.rebuild_char hr with rfl | ⟨gi, g, g', hg, hre, rfl⟩
  · rfl
  · exact map_set_same _ hg (by rw [(Group.rebuild_spec hre).1, (Group.rebuild_spec hre).2.1])

theorem Registry.update_shape {t : Tick} {reg : Registry} {r : Reader} {o : Registry.Out} (h : Registry.update r t reg = some o) :
    shape o.reg = shape reg := by
  induction h using Registry.update_induction with
  | nil => rfl
  | exclusive hex _ ih =>
    simp only [shape, List.map_cons, Group.entities, Registry.updateExclusive_entities hex]
    exact congrArg _ ih
  | shared _ _ ih =>
    simp only [shape, List.map_cons]
    exact congrArg _ ih

end BEI
