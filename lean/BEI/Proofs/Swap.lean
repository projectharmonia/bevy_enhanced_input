/-
  `Vec::swap_remove` as a permutation of "erase the element".
-/
import BEI.Model.Registry
namespace BEI

theorem swapRemove_map {α β : Type _} (f : α → β) (l : List α) (i : Nat) :
    (swapRemove l i).map f = swapRemove (l.map f) i := by
  unfold swapRemove
  rw [List.length_map, List.getLast?_map, apply_ite (List.map f), List.map_dropLast]
  cases l.getLast? with
  | none => rfl
  | some x => rw [Option.map_some, List.map_dropLast, List.map_set]

theorem swapRemove_decomp {α : Type _} (a : List α) (x : α) (b : List α) :
    (swapRemove (a ++ x :: b) a.length).Perm (a ++ b) := by
  unfold swapRemove
  rcases List.eq_nil_or_concat b with rfl | ⟨b', z, rfl⟩
  · simp
  · have hlast : (a ++ x :: (b' ++ [z])).getLast? = some z := by
      rw [← List.cons_append, ← List.append_assoc, List.getLast?_concat]
    simp only [List.concat_eq_append, List.length_append, List.length_cons, List.length_nil, hlast]
    rw [if_pos (by omega), List.set_append_right _ _ (Nat.le_refl _), Nat.sub_self, List.set_cons_zero,
      ← List.cons_append, ← List.append_assoc, List.dropLast_concat]
    exact List.Perm.append_left a (List.perm_append_comm (l₁ := [z]) (l₂ := b'))

theorem swapRemove_perm {α : Type _} {l : List α} {i : Nat} (h : i < l.length) : (swapRemove l i).Perm (l.eraseIdx i) := by
  have := swapRemove_decomp (l.take i) l[i] (l.drop (i + 1))
  rwa [List.getElem_cons_drop, List.take_append_drop, List.length_take, Nat.min_eq_left (Nat.le_of_lt h),
    ← List.eraseIdx_eq_take_drop_succ] at this

theorem swapRemove_erase {α : Type _} [BEq α] [LawfulBEq α] {l : List α} {e : α} (h : l.findIdx (· == e) < l.length) :
    (swapRemove l (l.findIdx (· == e))).Perm (l.erase e) :=
  -- `l.findIdx (· == e)` is `l.idxOf e` by definition, and erasing at that index is `l.erase e`
  List.erase_eq_eraseIdx_of_idxOf (l := l) (a := e) rfl ▸ swapRemove_perm h
end BEI
