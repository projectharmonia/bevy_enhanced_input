/-
  What `convert`, `ofV3` and `zero` do to the dimension and the components of a value.
-/
import BEI.Model.Value
namespace BEI.Value

theorem convert_dim (v : Value) (d : Dim) : (v.convert d).dim = d := by cases d <;> rfl

theorem convert_self (v : Value) : v.convert v.dim = v := by cases v <;> rfl

theorem ofV3_dim (p : V3) (d : Dim) : (ofV3 p d).dim = d := convert_dim _ _

theorem zero_dim (d : Dim) : (zero d).dim = d := by cases d <;> rfl

theorem zero_as3 (d : Dim) : (zero d).as3 = V3.zero := by cases d <;> rfl

/-- widening to three axes loses nothing that a conversion keeps -/
theorem ofV3_as3 (v : Value) (d : Dim) : ofV3 v.as3 d = v.convert d := by
  cases d
  · cases v with
    | bool b => cases b <;> rfl
    -- the padded axes compare equal to zero and drop out of `asBool`
    | _ => simp only [ofV3, convert, as3, asBool, beq_self_eq_true, Bool.and_true, bne]
  all_goals cases v <;> rfl

/-- a value is its three-axis view read back in its own dimension -/
theorem eq_ofV3 (v : Value) : v = ofV3 v.as3 v.dim := by rw [ofV3_as3, convert_self]

theorem ext_as3 {v w : Value} (hd : v.dim = w.dim) (h : v.as3 = w.as3) : v = w := by
  rw [eq_ofV3 v, eq_ofV3 w, hd, h]

/-- the three-axis view of a value has no component beyond its dimension -/
theorem ofV3_fits (v : Value) : (ofV3 v.as3 v.dim).as3 = v.as3 := by rw [← eq_ofV3]

end BEI.Value
