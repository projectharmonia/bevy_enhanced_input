/-
  How to reason about one frame's evaluation (`ActionBind.update` inside `loopActions` inside `ContextInstance.update`
  inside `updateExclusive` / `Registry.update`) without unfolding the model: an inversion lemma for each of the two
  non-recursive definitions, and an induction principle over a *successful* run for each of the three loops (the failure
  branches of the `Option` matches are dealt with here, once).
-/
import BEI.Proofs.Basic
import BEI.Proofs.Reader
namespace BEI

/-- What one successful `ActionBind::update` returns, field by field: the action's data goes from `old` to
    `old.update t st (v.convert ab.dim)` for some state and value (which ones: `ActionBind.UpdateChar`, Proofs/Update.lean). -/
structure ActionBind.UpdateSome (ab : ActionBind) (r : Reader) (av : ActionsView) (t : Tick) (es : List Nat)
    (o : ActionBind.Out) (old : ActionData) (st : AState) (v : Value) : Prop where
  old_eq : av.get? ab.action = some old
  actions : o.actions = av.set ab.action (old.update t st (v.convert ab.dim))
  deliveries : o.deliveries = (if o.eventsBlocked then [] else triggerEvents ab.action (old.update t st (v.convert ab.dim)) es)
  reader : o.reader = o.consumed.foldl Reader.consume r
  action : o.bind.action = ab.action
  dim : o.bind.dim = ab.dim

theorem ActionBind.UpdateSome.new_eq {ab : ActionBind} {r : Reader} {av : ActionsView} {t : Tick} {es : List Nat}
    {o : ActionBind.Out} {old : ActionData} {st : AState} {v : Value} (hs : ActionBind.UpdateSome ab r av t es o old st v) :
    o.actions.get? ab.action = some (old.update t st (v.convert ab.dim)) :=
  hs.actions ▸ ActionsView.get?_set_same hs.old_eq

/-- `update` is a map over the lookup of the action's data: the evaluation comes first and does not depend on it -/
theorem ActionBind.update_eq_map (ab : ActionBind) (r : Reader) (av : ActionsView) (t : Tick) (es : List Nat) :
    ab.update r av t es =
      let acc := ab.loopInputs r av t { tracker := Tracker.new (Value.zero ab.dim) } ab.bindings
      let rm := acc.2.tracker.applyModifiers av t ab.mods
      let rc := rm.1.applyConditions av t ab.conds
      let toConsume := if ab.consume && rc.1.state != .none then acc.2.consumeBuffer else []
      (av.get? ab.action).map fun old =>
        let d := old.update t rc.1.state (rc.1.value.convert ab.dim)
        { bind := { ab with mods := rm.2.1, conds := rc.2.1, bindings := acc.1 },
          reader := toConsume.foldl Reader.consume r, actions := av.set ab.action d,
          deliveries := if rc.1.eventsBlocked then [] else triggerEvents ab.action d es,
          log := acc.2.log ++ rm.2.2 ++ rc.2.2, consumed := toConsume, eventsBlocked := rc.1.eventsBlocked } := by
  unfold ActionBind.update
  cases av.get? ab.action <;> rfl

theorem ActionBind.update_some {ab : ActionBind} {r : Reader} {av : ActionsView} {t : Tick} {es : List Nat}
    {o : ActionBind.Out} (h : ab.update r av t es = some o) : ∃ old st v, ActionBind.UpdateSome ab r av t es o old st v := by
  rw [ActionBind.update_eq_map] at h
  obtain ⟨old, hold, rfl⟩ := Option.map_eq_some_iff.mp h
  exact ⟨old, _, _, hold, rfl, rfl, rfl, rfl, rfl⟩

theorem ActionBind.update_reader {ab : ActionBind} {r : Reader} {av : ActionsView} {t : Tick} {es : List Nat}
    {o : ActionBind.Out} (h : ab.update r av t es = some o) : o.reader = o.consumed.foldl Reader.consume r :=
  let ⟨_, _, _, hs⟩ := ActionBind.update_some h; hs.reader

/-- `ContextInstance::update` = select the gamepad, then the action loop -/
theorem ContextInstance.update_eq_some {ci : ContextInstance} {r : Reader} {t : Tick} {es : List Nat}
    {o : ContextInstance.Out} :
    ci.update r t es = some o ↔
      ∃ bs av, ContextInstance.loopActions (r.setGamepad ci.gamepad) ci.actions t es ci.bindings
          = some (bs, o.reader, av, o.deliveries, o.log)
        ∧ o.inst = { ci with bindings := bs, actions := av } := by
  unfold ContextInstance.update
  constructor
  · intro h
    split at h
    · cases h
    · rename_i hl
      cases h
      exact ⟨_, _, hl, rfl⟩
  · rintro ⟨bs, av, h, hi⟩
    rw [h]
    cases o; cases hi; rfl

/-! ### induction over a successful run

  The motives may mention the hypothesis: that is the form `induction h using …` wants. -/

section
variable {t : Tick} {es : List Nat}

theorem ContextInstance.loopActions_cons {r av ab rest o rest' r' av' dl lg} (ho : ab.update r av t es = some o)
    (hrest : ContextInstance.loopActions o.reader o.actions t es rest = some (rest', r', av', dl, lg)) :
    ContextInstance.loopActions r av t es (ab :: rest)
      = some (o.bind :: rest', r', av', o.deliveries ++ dl, o.log ++ lg) := by
  simp only [ContextInstance.loopActions, ho, hrest]

theorem ContextInstance.loopActions_induction
    {motive : ∀ r av bs bs' r' av' dl lg, ContextInstance.loopActions r av t es bs = some (bs', r', av', dl, lg) → Prop}
    (nil : ∀ r av, motive r av [] [] r av [] [] rfl)
    (cons : ∀ {r av ab rest o rest' r' av' dl lg} (ho : ab.update r av t es = some o)
      (hrest : ContextInstance.loopActions o.reader o.actions t es rest = some (rest', r', av', dl, lg)),
      motive o.reader o.actions rest rest' r' av' dl lg hrest →
      motive r av (ab :: rest) (o.bind :: rest') r' av' (o.deliveries ++ dl) (o.log ++ lg) (ContextInstance.loopActions_cons ho hrest))
    {r av bs bs' r' av' dl lg} (h : ContextInstance.loopActions r av t es bs = some (bs', r', av', dl, lg)) :
    motive r av bs bs' r' av' dl lg h := by
  induction r, av, bs using ContextInstance.loopActions.induct t es generalizing bs' r' av' dl lg with
  | case1 r av => cases h; exact nil r av
  | case2 _ _ _ _ ho => simp [ContextInstance.loopActions, ho] at h
  | case3 _ _ _ _ _ ho hrest => simp [ContextInstance.loopActions, ho, hrest] at h
  | case4 _ _ _ _ _ ho _ _ _ _ _ hrest ih =>
    -- the `_cons` equation and `h` give `some … = some …`: `cases` identifies every output with what the step produced
    cases (ContextInstance.loopActions_cons ho hrest).symm.trans h
    exact cons ho hrest (ih hrest)

end

section
variable {t : Tick}

theorem Registry.updateExclusive_cons {r e ctx rest o rest' r' dl lg} (ho : ContextInstance.update ctx r t [e] = some o)
    (hrest : Registry.updateExclusive o.reader t rest = some (rest', r', dl, lg)) :
    Registry.updateExclusive r t ((e, ctx) :: rest) = some ((e, o.inst) :: rest', r', o.deliveries ++ dl, o.log ++ lg) := by
  simp only [Registry.updateExclusive, ho, hrest]

theorem Registry.updateExclusive_induction
    {motive : ∀ r is is' r' dl lg, Registry.updateExclusive r t is = some (is', r', dl, lg) → Prop}
    (nil : ∀ r, motive r [] [] r [] [] rfl)
    (cons : ∀ {r e ctx rest o rest' r' dl lg} (ho : ContextInstance.update ctx r t [e] = some o)
      (hrest : Registry.updateExclusive o.reader t rest = some (rest', r', dl, lg)), motive o.reader rest rest' r' dl lg hrest →
      motive r ((e, ctx) :: rest) ((e, o.inst) :: rest') r' (o.deliveries ++ dl) (o.log ++ lg) (Registry.updateExclusive_cons ho hrest))
    {r is is' r' dl lg} (h : Registry.updateExclusive r t is = some (is', r', dl, lg)) : motive r is is' r' dl lg h := by
  induction r, is using Registry.updateExclusive.induct t generalizing is' r' dl lg with
  | case1 r => cases h; exact nil r
  | case2 _ _ _ _ ho => simp [Registry.updateExclusive, ho] at h
  | case3 _ _ _ _ _ ho hrest => simp [Registry.updateExclusive, ho, hrest] at h
  | case4 _ _ _ _ _ ho _ _ _ _ hrest ih =>
    cases (Registry.updateExclusive_cons ho hrest).symm.trans h
    exact cons ho hrest (ih hrest)

theorem Registry.updateExclusive_entities {r is is' r' dl lg} (h : Registry.updateExclusive r t is = some (is', r', dl, lg)) :
    is'.map (·.1) = is.map (·.1) := by
  induction h using Registry.updateExclusive_induction with
  | nil => rfl
  | cons _ _ ih => simp [ih]

theorem Registry.update_exclusive {r ty is is' r' dl lg rest o} (hex : Registry.updateExclusive r t is = some (is', r', dl, lg))
    (hrest : Registry.update r' t rest = some o) :
    Registry.update r t (.exclusive ty is :: rest)
      = some { o with reg := .exclusive ty is' :: o.reg, deliveries := dl ++ o.deliveries, log := lg ++ o.log } := by
  simp only [Registry.update, hex, hrest]

theorem Registry.update_shared {r ty es ctx oc rest o} (hctx : ContextInstance.update ctx r t es = some oc)
    (hrest : Registry.update oc.reader t rest = some o) :
    Registry.update r t (.shared ty es ctx :: rest)
      = some { o with reg := .shared ty es oc.inst :: o.reg, deliveries := oc.deliveries ++ o.deliveries,
                      log := oc.log ++ o.log } := by
  simp only [Registry.update, hctx, hrest]

/-- induction over a successful `Registry.update`: the empty registry, an exclusive group in front (its instances
    evaluated by `updateExclusive`), a shared group in front (its one instance evaluated for all holders) -/
theorem Registry.update_induction {motive : ∀ r reg o, Registry.update r t reg = some o → Prop}
    (nil : ∀ r, motive r [] { reg := [], reader := r, deliveries := [], log := [] } rfl)
    (exclusive : ∀ {r ty is is' r' dl lg rest o} (hex : Registry.updateExclusive r t is = some (is', r', dl, lg))
      (hrest : Registry.update r' t rest = some o), motive r' rest o hrest →
      motive r (.exclusive ty is :: rest) _ (Registry.update_exclusive hex hrest))
    (shared : ∀ {r ty es ctx oc rest o} (hctx : ContextInstance.update ctx r t es = some oc)
      (hrest : Registry.update oc.reader t rest = some o), motive oc.reader rest o hrest →
      motive r (.shared ty es ctx :: rest) _ (Registry.update_shared hctx hrest))
    {r reg o} (h : Registry.update r t reg = some o) : motive r reg o h := by
  induction r, reg using Registry.update.induct t generalizing o with
  | case1 r => cases h; exact nil r
  | case2 _ _ _ _ hex => simp [Registry.update, hex] at h
  | case3 _ _ _ _ _ _ _ _ hex hrest => simp [Registry.update, hex, hrest] at h
  | case4 _ _ _ _ _ _ _ _ hex _ hrest ih =>
    cases (Registry.update_exclusive hex hrest).symm.trans h
    exact exclusive hex hrest (ih hrest)
  | case5 _ _ _ _ _ hctx => simp [Registry.update, hctx] at h
  | case6 _ _ _ _ _ _ hctx hrest => simp [Registry.update, hctx, hrest] at h
  | case7 _ _ _ _ _ _ hctx _ hrest ih =>
    cases (Registry.update_shared hctx hrest).symm.trans h
    exact shared hctx hrest (ih hrest)

end

/-! ### reader predicates over the frame

  While the registry is evaluated the reader is only ever changed by `consume` and `set_gamepad`: a predicate closed under
  both is preserved by every level of the evaluation. -/

section
variable {P : Reader → Prop} (hc : ∀ r i, P r → P (r.consume i))
include hc

theorem ActionBind.update_reader_inv {ab : ActionBind} {r av t es o} (h : ab.update r av t es = some o) (hr : P r) :
    P o.reader := by
  rw [ActionBind.update_reader h]
  exact List.foldlRecOn _ _ hr fun x hx i _ => hc x i hx

theorem ContextInstance.loopActions_reader_inv {t es bs r av bs' r' av' dl lg}
    (h : ContextInstance.loopActions r av t es bs = some (bs', r', av', dl, lg)) : P r → P r' := by
  induction h using ContextInstance.loopActions_induction with
  | nil => exact id
  | cons ho _ ih => exact fun hr => ih (ActionBind.update_reader_inv hc ho hr)

variable (hg : ∀ r d, P r → P (r.setGamepad d))
include hg

theorem ContextInstance.update_reader_inv {ci : ContextInstance} {r t es o} (h : ci.update r t es = some o) (hr : P r) :
    P o.reader := by
  obtain ⟨_, _, hl, _⟩ := ContextInstance.update_eq_some.mp h
  exact ContextInstance.loopActions_reader_inv hc hl (hg r _ hr)

theorem Registry.updateExclusive_reader_inv {t is r is' r' dl lg}
    (h : Registry.updateExclusive r t is = some (is', r', dl, lg)) : P r → P r' := by
  induction h using Registry.updateExclusive_induction with
  | nil => exact id
  | cons ho _ ih => exact fun hr => ih (ContextInstance.update_reader_inv hc hg ho hr)

theorem Registry.update_reader_inv {t reg r o} (h : Registry.update r t reg = some o) : P r → P o.reader := by
  induction h using Registry.update_induction with
  | nil => exact id
  | exclusive hex _ ih => exact fun hr => ih (Registry.updateExclusive_reader_inv hc hg hex hr)
  | shared hctx _ ih => exact fun hr => ih (ContextInstance.update_reader_inv hc hg hctx hr)

end
end BEI
