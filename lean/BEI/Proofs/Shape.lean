/-
  The membership "shape" of the registry (which entities each context type's group holds) and the well-formedness
  invariant on it; how `add` / `remove` act on the shape (`rebuild` and `update` leave it as it is: Proofs/Reg.lean).
-/
import BEI.Proofs.Reg
namespace BEI

/-- entity `e` is a holder of context type `c` -/
def memS (sh : Shape) (c e : Nat) : Prop := ∃ p ∈ sh, p.1.id = c ∧ e ∈ p.2

/-- one group per type, no empty group, no duplicate holder -/
structure ShapeWF (sh : Shape) : Prop where
  types : (sh.map (·.1.id)).Nodup
  nonempty : ∀ p ∈ sh, p.2 ≠ []
  nodup : ∀ p ∈ sh, p.2.Nodup

theorem getElem?_inj_of_map_nodup {α β : Type _} {f : α → β} {l : List α} (h : (l.map f).Nodup) {i j : Nat} {x y : α}
    (hi : l[i]? = some x) (hj : l[j]? = some y) (hxy : f x = f y) : i = j :=
  (List.getElem?_inj (by simpa using (List.getElem?_eq_some_iff.mp hi).1) h).mp
    (by rw [List.getElem?_map, List.getElem?_map, hi, hj, Option.map_some, Option.map_some, hxy])

theorem Registry.index_of_mem {reg : Registry} (hwf : ((shape reg).map (·.1.id)).Nodup) {g : Group} (hg : g ∈ reg) :
    ∃ gi, reg.index g.ty.id = some gi ∧ reg[gi]? = some g := by
  have hidx := (reg.index_eq_findIdx? g.ty.id).trans (List.findIdx?_eq_some_of_exists ⟨g, hg, beq_iff_eq.mpr rfl⟩)
  obtain ⟨g', hg', hid⟩ := Registry.index_spec hidx
  obtain ⟨j, hj⟩ := List.getElem?_of_mem hg
  rw [shape, List.map_map] at hwf
  cases getElem?_inj_of_map_nodup hwf hg' hj hid
  exact ⟨_, hidx, hj⟩

theorem memS_shape_iff {reg : Registry} (hwf : ShapeWF (shape reg)) {c e : Nat} :
    memS (shape reg) c e ↔ ∃ gi, reg.index c = some gi ∧ ∃ g, reg[gi]? = some g ∧ e ∈ g.entities := by
  constructor
  · rintro ⟨p, hp, rfl, hpe⟩
    obtain ⟨g, hg, rfl⟩ := List.mem_map.mp hp
    obtain ⟨gi, hi, hgi⟩ := Registry.index_of_mem hwf.types hg
    exact ⟨gi, hi, g, hgi, hpe⟩
  · rintro ⟨gi, hi, g, hg, he⟩
    obtain ⟨g₀, hg₀, hid⟩ := Registry.index_spec hi
    cases hg.symm.trans hg₀
    exact ⟨(g.ty, g.entities), List.mem_map_of_mem (List.mem_of_getElem? hg), hid, he⟩

theorem memS_of_getElem (sh : Shape) (i : Nat) (p : CtxType × List Nat) (e : Nat) (hi : sh[i]? = some p) (he : e ∈ p.2) :
    memS sh p.1.id e := ⟨p, List.mem_of_getElem? hi, rfl, he⟩

/-! ### shapes of the form `a ++ p :: b` -/

theorem memS_split (a b : Shape) (p : CtxType × List Nat) (c e : Nat) :
    memS (a ++ p :: b) c e ↔ memS (a ++ b) c e ∨ (p.1.id = c ∧ e ∈ p.2) := by
  simp only [memS, List.mem_append, List.mem_cons, or_and_right, exists_or, exists_eq_left]
  rw [← or_assoc, or_right_comm]

theorem shapeWF_iff (sh : Shape) : ShapeWF sh ↔ (sh.map (·.1.id)).Nodup ∧ ∀ p ∈ sh, p.2 ≠ [] ∧ p.2.Nodup :=
  ⟨fun h => ⟨h.types, fun p hp => ⟨h.nonempty p hp, h.nodup p hp⟩⟩,
    fun h => ⟨h.1, fun p hp => (h.2 p hp).1, fun p hp => (h.2 p hp).2⟩⟩

theorem ShapeWF.perm_iff {s s' : Shape} (h : s.Perm s') : ShapeWF s ↔ ShapeWF s' := by
  simp only [shapeWF_iff, (h.map _).nodup_iff, h.mem_iff]

theorem shapeWF_split (a b : Shape) (p : CtxType × List Nat) :
    ShapeWF (a ++ p :: b) ↔ ShapeWF (a ++ b) ∧ p.2 ≠ [] ∧ p.2.Nodup ∧ (∀ q ∈ a ++ b, q.1.id ≠ p.1.id) := by
  -- move `p` to the front, then both sides are the same conjuncts in another order
  rw [ShapeWF.perm_iff List.perm_middle]
  generalize a ++ b = l
  simp only [shapeWF_iff, List.map_cons, List.nodup_cons, List.forall_mem_cons, List.mem_map, not_exists, not_and, ne_eq]
  ac_nf

/-- a well-formed registry seen from its `gi`-th group `g`: who holds `g`'s type, and the effect of giving it other
    holders (with none left the group goes, so no group is ever empty) -/
theorem shape_at {reg : Registry} {gi : Nat} {g : Group} (hg : reg[gi]? = some g) (hwf : ShapeWF (shape reg)) :
    (∀ e, memS (shape reg) g.ty.id e ↔ e ∈ g.entities)
    ∧ ∀ g' : Group, g'.ty = g.ty → g'.entities.Nodup →
        ShapeWF (shape (reg.put gi g'))
        ∧ ∀ c e, memS (shape (reg.put gi g')) c e ↔ if c = g.ty.id then e ∈ g'.entities else memS (shape reg) c e := by
  obtain ⟨hs, hset⟩ := split_getElem? hg
  have hs' := congrArg shape hs
  simp only [Registry.put, hset, List.eraseIdx_eq_take_drop_succ, shape, List.map_append, List.map_cons,
    apply_ite (List.map _)] at hs' hwf ⊢
  rw [hs'] at hwf ⊢
  generalize List.map (fun g : Group => (g.ty, g.entities)) (reg.take gi) = a at *
  generalize List.map (fun g : Group => (g.ty, g.entities)) (reg.drop (gi + 1)) = b at *
  obtain ⟨hwf', hne, hnd, huniq⟩ := (shapeWF_split a b _).mp hwf
  have hnot : ∀ e, ¬ memS (a ++ b) g.ty.id e := by
    rintro e ⟨q, hq, heq, _⟩
    exact huniq q hq heq
  refine ⟨fun e => by simp [memS_split, hnot], fun g' hty hnd' => ⟨?_, fun c e => ?_⟩⟩
  · split
    · exact hwf'
    · exact (shapeWF_split a b _).mpr ⟨hwf', fun h => ‹¬ _› (List.isEmpty_iff.mpr h), hnd', hty ▸ huniq⟩
  · -- `memS` does not see a group without holders: dropping `g'` and keeping it come to the same there
    have : memS (if g'.entities.isEmpty then a ++ b else a ++ (g'.ty, g'.entities) :: b) c e
        ↔ memS (a ++ b) c e ∨ (g.ty.id = c ∧ e ∈ g'.entities) := by
      split
      · simp [List.isEmpty_iff.mp ‹_›]
      · rw [memS_split, hty]
    rw [this, memS_split]
    by_cases hc : c = g.ty.id
    · subst hc; simp [hnot]
    · simp [hc, Ne.symm hc]

theorem Registry.add_shape {reg : Registry} (hwf : ShapeWF (shape reg)) (mk : Factory) (ty : CtxType) (e : Nat)
    (hnew : ¬ memS (shape reg) ty.id e) :
    ShapeWF (shape (reg.add mk ty e))
    ∧ ∀ c' e', memS (shape (reg.add mk ty e)) c' e' ↔ memS (shape reg) c' e' ∨ (c' = ty.id ∧ e' = e) := by
  rcases Registry.add_char reg mk ty e with ⟨i, g, hg, hgid, hadd⟩ | ⟨hall, hadd⟩
  · obtain ⟨hmem, hput⟩ := shape_at hg hwf
    obtain ⟨hty, hents, _⟩ := g.push_spec e (mk ty.id e)
    rw [hgid] at hmem hput
    obtain ⟨hwf', hm'⟩ := hput _ hty (by
      rw [hents, (List.perm_append_singleton ..).nodup_iff]
      exact List.nodup_cons.mpr
        ⟨fun he => hnew ((hmem e).mpr he), hwf.nodup _ (List.mem_map_of_mem (List.mem_of_getElem? hg))⟩)
    refine hadd ▸ ⟨hwf', fun c' e' => ?_⟩
    rw [hm', hents]
    by_cases hc : c' = ty.id
    · subst hc; simp [hmem]
    · simp [hc]
  · simp only [hadd, shape, List.map_append, List.map_take, List.map_drop, List.map_cons,
      List.append_assoc, List.singleton_append]
    rw [(Group.new_spec mk ty e).1, (Group.new_spec mk ty e).2.1]
    refine ⟨(shapeWF_split _ _ (ty, [e])).mpr ⟨by rw [List.take_append_drop]; exact hwf, by simp, by simp, fun q hq => ?_⟩,
      fun c' e' => ?_⟩
    · rw [List.take_append_drop] at hq
      obtain ⟨g, hg, rfl⟩ := List.mem_map.mp hq
      exact hall g hg
    · rw [memS_split, List.take_append_drop, List.mem_singleton, eq_comm]

theorem Registry.remove_shape {reg reg' : Registry} {t : Tick} {c e : Nat} {dl : List Delivery}
    (hwf : ShapeWF (shape reg)) (hr : reg.remove t c e = some (reg', dl)) :
    ShapeWF (shape reg')
    ∧ ∀ c' e', memS (shape reg') c' e' ↔ (memS (shape reg) c' e' ∧ ¬ (c' = c ∧ e' = e)) := by
  obtain ⟨gi, g, ctx, g', hidx, hg, hrem, _, rfl⟩ := Registry.remove_char hr
  obtain ⟨g₀, hg₀, rfl⟩ := Registry.index_spec hidx
  cases hg.symm.trans hg₀
  obtain ⟨_, hty, hperm, _⟩ := Group.remove_spec hrem
  obtain ⟨hmem, hput⟩ := shape_at hg hwf
  have hnd := hwf.nodup _ (List.mem_map_of_mem (List.mem_of_getElem? hg))
  obtain ⟨hwf', hm'⟩ := hput g' hty (hperm.nodup_iff.mpr (hnd.erase e))
  refine ⟨hwf', fun c' e' => ?_⟩
  rw [hm', hperm.mem_iff, hnd.mem_erase_iff]
  by_cases hc : c' = g.ty.id
  · subst hc; simp [hmem, and_comm]
  · simp [hc]

end BEI
