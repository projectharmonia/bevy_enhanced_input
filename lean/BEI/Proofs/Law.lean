/-
  The explicit / implicit / blocker law and its relation to `Tracker`.
  `lawState` / `lawEventsBlocked` are the specification the statements of C03 are written against; `runMods` / `runConds`
  are what a list of modifiers / conditions computes, without trackers and logs.
-/
import BEI.Proofs.Basic
namespace BEI

/-- one condition result: the kind it reported and the state it returned -/
abbrev Res := Kind × AState

def Res.isExplicit (r : Res) : Bool := r.1 == .explicit
def Res.isImplicit (r : Res) : Bool := r.1 == .implicit

/-- the law, transcribed from the statement of C03 -/
def lawState (rs : List Res) (nonzero : Bool) : AState :=
  -- None if any blocking condition failed
  if rs.any (fun r => r.1 == .blocker && r.2 == .none) then .none
  -- with no explicit or implicit condition present: Fired iff the value is non-zero
  else if !(rs.any Res.isExplicit) && !(rs.any Res.isImplicit) then (if nonzero then .fired else .none)
  -- Fired iff every implicit condition fired and (there is no explicit condition or at least one fired)
  else if rs.all (fun r => !r.isImplicit || r.2 == .fired)
          && (!(rs.any Res.isExplicit) || rs.any (fun r => r.isExplicit && r.2 == .fired)) then .fired
  -- else Ongoing if any explicit or implicit condition returned a non-None state, else None
  else if rs.any (fun r => (r.isExplicit || r.isImplicit) && r.2 != .none) then .ongoing
  else .none

/-- events are suppressed iff some events-only blocker failed -/
def lawEventsBlocked (rs : List Res) : Bool := rs.any (fun r => r.1 == .eventsBlocker && r.2 == .none)

/-- the condition results recorded in an invocation log, in order -/
def resultsOf : List Inv → List Res
  | [] => []
  | .cond _ _ st k :: rest => (k, st) :: resultsOf rest
  | .mod _ _ _ :: rest => resultsOf rest

theorem resultsOf_append (a b : List Inv) : resultsOf (a ++ b) = resultsOf a ++ resultsOf b := by
  induction a with
  | nil => rfl
  | cons x xs ih => cases x <;> simp [resultsOf, ih]

/-- the tracker's flags describe the list of results `rs` -/
structure TInv (t : Tracker) (rs : List Res) : Prop where
  fe : t.foundExplicit = rs.any Res.isExplicit
  ae : t.anyExplicitFired = rs.any (fun r => r.isExplicit && r.2 == .fired)
  fi : t.foundImplicit = rs.any Res.isImplicit
  ai : t.allImplicitsFired = rs.all (fun r => !r.isImplicit || r.2 == .fired)
  fa : t.foundActive = rs.any (fun r => (r.isExplicit || r.isImplicit) && r.2 != .none)
  bl : t.blocked = rs.any (fun r => r.1 == .blocker && r.2 == .none)
  eb : t.eventsBlocked = rs.any (fun r => r.1 == .eventsBlocker && r.2 == .none)

theorem TInv.new (v : Value) : TInv (Tracker.new v) [] := ⟨rfl, rfl, rfl, rfl, rfl, rfl, rfl⟩

/-- `note` without the `match`: every flag absorbs what the result contributes to it, which is what `TInv` lists -/
theorem Tracker.note_eq (t : Tracker) (r : Res) : t.note r.1 r.2 = { t with
    foundExplicit := t.foundExplicit || r.isExplicit,
    anyExplicitFired := t.anyExplicitFired || (r.isExplicit && r.2 == .fired),
    foundImplicit := t.foundImplicit || r.isImplicit,
    allImplicitsFired := t.allImplicitsFired && (!r.isImplicit || r.2 == .fired),
    foundActive := t.foundActive || ((r.isExplicit || r.isImplicit) && r.2 != .none),
    blocked := t.blocked || (r.1 == .blocker && r.2 == .none),
    eventsBlocked := t.eventsBlocked || (r.1 == .eventsBlocker && r.2 == .none) } := by
  obtain ⟨k, s⟩ := r
  cases k <;> simp [Tracker.note, Res.isExplicit, Res.isImplicit]

theorem TInv.note {t : Tracker} {rs : List Res} (h : TInv t rs) (k : Kind) (s : AState) :
    TInv (t.note k s) (rs ++ [(k, s)]) := by
  rw [show t.note k s = _ from t.note_eq (k, s)]
  constructor <;> simp only [List.any_append, List.all_append, List.any_cons, List.all_cons, List.any_nil,
    List.all_nil, Bool.or_false, Bool.and_true, h.fe, h.ae, h.fi, h.ai, h.fa, h.bl, h.eb]

theorem Tracker.note_value (tr : Tracker) (k : Kind) (s : AState) : (tr.note k s).value = tr.value := by
  cases k <;> rfl

theorem TInv.withValue {t : Tracker} {rs : List Res} (h : TInv t rs) (v : Value) : TInv { t with value := v } rs :=
  ⟨h.fe, h.ae, h.fi, h.ai, h.fa, h.bl, h.eb⟩

theorem TInv.state_eq {t : Tracker} {rs : List Res} (h : TInv t rs) : t.state = lawState rs t.value.asBool := by
  unfold Tracker.state lawState
  rw [h.fe, h.ae, h.fi, h.ai, h.fa, h.bl, Bool.and_comm (rs.all _)]

/-- `combine` corresponds to concatenating the result lists -/
theorem TInv.combine (a b : Tracker) (ra rb : List Res) (acc : Accum) (ha : TInv a ra) (hb : TInv b rb) :
    TInv (a.combine b acc) (ra ++ rb) := by
  constructor <;> simp only [List.any_append, List.all_append, ← ha.fe, ← ha.ae, ← ha.fi, ← ha.ai, ← ha.fa, ← ha.bl,
    ← ha.eb, ← hb.fe, ← hb.ae, ← hb.fi, ← hb.ai, ← hb.fa, ← hb.bl, ← hb.eb] <;> rfl

/-- `overwrite` replaces the result list -/
theorem TInv.overwrite (a b : Tracker) (rb : List Res) (hb : TInv b rb) : TInv (a.overwrite b) rb :=
  hb.withValue _

/-- the value after a chain of modifiers, in declaration order -/
def runMods (av : ActionsView) (t : Tick) : List Mod → Value → Value
  | [], v => v
  | m :: ms, v => runMods av t ms (m.apply av t v).2

theorem runMods_append (av : ActionsView) (t : Tick) (ms ns : List Mod) (v : Value) :
    runMods av t (ms ++ ns) v = runMods av t ns (runMods av t ms v) := by
  induction ms generalizing v with
  | nil => rfl
  | cons m ms ih => exact ih _

/-- the results of a list of conditions, all evaluated on the same value -/
def runConds (av : ActionsView) (t : Tick) (cs : List Cond) (v : Value) : List Res :=
  cs.map (fun c => ((c.eval av t v).2.2, (c.eval av t v).2.1))

/-- modifiers touch the value only -/
theorem Tracker.applyModifiers_fst (av : ActionsView) (t : Tick) : ∀ (ms : List Mod) (tr : Tracker),
    (tr.applyModifiers av t ms).1 = { tr with value := runMods av t ms tr.value }
  | [], _ => rfl
  | m :: ms, tr => Tracker.applyModifiers_fst av t ms { tr with value := (m.apply av t tr.value).2 }

theorem Tracker.applyModifiers_value (av : ActionsView) (t : Tick) (ms : List Mod) (tr : Tracker) :
    (tr.applyModifiers av t ms).1.value = runMods av t ms tr.value := by rw [Tracker.applyModifiers_fst]

theorem Tracker.applyModifiers_ids (av : ActionsView) (t : Tick) : ∀ (ms : List Mod) (tr : Tracker),
    (tr.applyModifiers av t ms).2.2.map Inv.id = ms.map (·.id)
    ∧ (tr.applyModifiers av t ms).2.1.map (·.id) = ms.map (·.id)
  | [], _ => ⟨rfl, rfl⟩
  | m :: ms, tr => by
    obtain ⟨h1, h2⟩ := Tracker.applyModifiers_ids av t ms { tr with value := (m.apply av t tr.value).2 }
    exact ⟨congrArg (m.id :: ·) h1, congrArg (m.id :: ·) h2⟩

/-- `apply_conditions` in closed form: `note` leaves the value alone, so every condition is evaluated on the same value; the
    results are `note`d in order, and one updated object and one log entry come back per condition -/
theorem Tracker.applyConditions_eq (av : ActionsView) (t : Tick) : ∀ (cs : List Cond) (tr : Tracker),
    tr.applyConditions av t cs =
      ((runConds av t cs tr.value).foldl (fun tr r => tr.note r.1 r.2) tr,
       cs.map (fun c => (c.eval av t tr.value).1),
       cs.map (fun c => .cond c.id tr.value (c.eval av t tr.value).2.1 (c.eval av t tr.value).2.2))
  | [], _ => rfl
  | c :: cs, tr => by
    have := Tracker.applyConditions_eq av t cs (tr.note (c.eval av t tr.value).2.2 (c.eval av t tr.value).2.1)
    rw [Tracker.note_value] at this
    simp only [Tracker.applyConditions, this]
    rfl

theorem Tracker.applyConditions_fst (av : ActionsView) (t : Tick) (cs : List Cond) (tr : Tracker) :
    (tr.applyConditions av t cs).1 = (runConds av t cs tr.value).foldl (fun tr r => tr.note r.1 r.2) tr := by
  rw [Tracker.applyConditions_eq]

theorem Tracker.applyConditions_results (av : ActionsView) (t : Tick) (cs : List Cond) (tr : Tracker) :
    resultsOf (tr.applyConditions av t cs).2.2 = runConds av t cs tr.value := by
  rw [Tracker.applyConditions_eq]
  induction cs with
  | nil => rfl
  | cons c cs ih => exact congrArg (_ :: ·) ih

theorem Tracker.applyConditions_ids (av : ActionsView) (t : Tick) (cs : List Cond) (tr : Tracker) :
    (tr.applyConditions av t cs).2.2.map Inv.id = cs.map (·.id)
    ∧ (tr.applyConditions av t cs).2.1.map (·.id) = cs.map (·.id) := by
  rw [Tracker.applyConditions_eq]
  exact ⟨List.map_map .., List.map_map ..⟩

theorem TInv.noteAll (rs' : List Res) : ∀ {t : Tracker} {rs : List Res}, TInv t rs →
    TInv (rs'.foldl (fun t r => t.note r.1 r.2) t) (rs ++ rs') := by
  induction rs' with
  | nil => intro t rs h; simpa using h
  | cons r rs' ih => intro t rs h; simpa using ih (h.note r.1 r.2)

theorem Tracker.noteAll_value (rs : List Res) (t : Tracker) : (rs.foldl (fun t r => t.note r.1 r.2) t).value = t.value :=
  List.foldlRecOn rs _ (motive := fun x => x.value = t.value) rfl fun x hx r _ => (Tracker.note_value x r.1 r.2).trans hx

/-- what one level of evaluation (modifiers, then conditions) does to a tracker whose flags describe `rs` -/
theorem TInv.applyLevel {tr : Tracker} {rs : List Res} (h : TInv tr rs) (av : ActionsView) (t : Tick) (ms : List Mod)
    (cs : List Cond) :
    let out := ((tr.applyModifiers av t ms).1.applyConditions av t cs).1
    out.value = runMods av t ms tr.value
    ∧ TInv out (rs ++ runConds av t cs (runMods av t ms tr.value)) := by
  simp only [Tracker.applyConditions_fst, Tracker.applyModifiers_fst]
  exact ⟨Tracker.noteAll_value _ _, (h.withValue _).noteAll _⟩

end BEI
