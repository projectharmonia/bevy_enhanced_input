/-
  The registry mirrors the world: invariant over all reachable application states. Before it, what `World`'s lookups say
  after each operation `applyOp` performs on the world; after it, `get` / `index` / `remove` in terms of the shape.
-/
import BEI.Proofs.Shape
import BEI.Proofs.AppInv
namespace BEI

/-- each entity is listed once and carries each component at most once -/
structure WorldWF (w : World) : Prop where
  ents : (w.map (·.1)).Nodup
  comps : ∀ p ∈ w, (p.2.map (·.1)).Nodup

namespace World

theorem has_def (w : World) (e c : Nat) : w.has e c = (w.comps e).any (fun p => p.1 == c) := rfl

theorem has_iff {w : World} {e c : Nat} : w.has e c = true ↔ c ∈ (w.comps e).map (·.1) := by
  simp only [has, List.any_eq_true, beq_iff_eq, List.mem_map]

theorem comps_cons (p : Nat × List (Nat × Nat)) (w : World) (e : Nat) :
    comps (p :: w) e = if p.1 = e then p.2 else comps w e := by
  simp only [comps, beq_iff_eq]

theorem alive_cons (p : Nat × List (Nat × Nat)) (w : World) (e : Nat) :
    alive (p :: w) e = true ↔ p.1 = e ∨ alive w e = true := by
  simp only [alive, List.any_cons, Bool.or_eq_true, beq_iff_eq]

theorem alive_iff_mem (w : World) (e : Nat) : w.alive e = true ↔ e ∈ w.map (·.1) := by
  simp only [alive, List.any_eq_true, List.mem_map, beq_iff_eq]

theorem comps_of_not_alive {w : World} {e : Nat} (h : w.alive e = false) : w.comps e = [] := by
  induction w with
  | nil => rfl
  | cons p ps ih =>
    have h' := (Bool.not_eq_true _).mpr h
    rw [alive_cons, not_or] at h'
    rw [comps_cons, if_neg h'.1, ih ((Bool.not_eq_true _).mp h'.2)]

theorem comps_mem {w : World} {e : Nat} (h : w.alive e = true) : (e, w.comps e) ∈ w := by
  induction w with
  | nil => cases h
  | cons p ps ih =>
    rw [comps_cons]
    split
    · rename_i hk
      exact hk ▸ List.mem_cons_self
    · rename_i hk
      exact List.mem_cons_of_mem _ (ih (((alive_cons ..).mp h).resolve_left hk))

theorem alive_of_has {w : World} {e c : Nat} (h : w.has e c = true) : w.alive e = true :=
  Decidable.byContradiction fun ha => by
    rw [has_def, comps_of_not_alive ((Bool.not_eq_true _).mp ha)] at h
    cases h

theorem comps_setComps (w : World) (e e' : Nat) (cs : List (Nat × Nat)) :
    (w.setComps e cs).comps e' = if e' = e then (if w.alive e then cs else []) else w.comps e' := by
  induction w with
  | nil => simp [setComps, comps, alive]
  | cons p ps ih =>
    rw [setComps, List.map_cons, comps_cons, ← setComps, ih, comps_cons]
    by_cases h1 : p.1 = e'
    · by_cases h2 : e' = e
      · simp [h1, h2, alive_cons]
      · simp [h1, h2]
    · by_cases h2 : e' = e
      · simp [h2, alive_cons, h2 ▸ h1]
      · simp [h1, h2, apply_ite Prod.fst]

theorem comps_filter_ne (w : World) (e e' : Nat) :
    World.comps (w.filter (fun p => p.1 != e)) e' = if e' = e then [] else w.comps e' := by
  induction w with
  | nil => simp [comps]
  | cons p ps ih =>
    rw [List.filter_cons, comps_cons]
    by_cases hk : p.1 = e
    · rw [if_neg (by simp [hk]), ih]
      by_cases he : e' = e
      · rw [if_pos he, if_pos he]
      · rw [if_neg he, if_neg he, if_neg (hk ▸ Ne.symm he)]
    · rw [if_pos (by simp [hk]), comps_cons, ih]
      by_cases he : p.1 = e'
      · rw [if_pos he, if_pos he, if_neg (he ▸ hk)]
      · rw [if_neg he, if_neg he]

theorem comps_append_new {w : World} {e : Nat} (e' : Nat) (h : w.alive e = false) :
    World.comps (w ++ [(e, [])]) e' = w.comps e' := by
  induction w with
  | nil => simp [comps]
  | cons p ps ih =>
    have h' := (Bool.not_eq_true _).mpr h
    rw [alive_cons, not_or] at h'
    rw [List.cons_append, comps_cons, comps_cons, ih ((Bool.not_eq_true _).mp h'.2)]

theorem mem_keys_insertComp {cs : List (Nat × Nat)} {c v x : Nat} :
    x ∈ (insertComp cs c v).map (·.1) ↔ x = c ∨ x ∈ cs.map (·.1) := by
  fun_induction insertComp cs c v with
  | case1 => simp
  | case2 c' v' rest h => rw [List.map_cons, List.map_cons, List.mem_cons, List.mem_cons, ← beq_iff_eq.mp h, or_self_left]
  | case3 => exact List.mem_cons
  | case4 c' v' rest _ _ ih => rw [List.map_cons, List.mem_cons, ih, List.map_cons, List.mem_cons, or_left_comm]

theorem insertComp_sorted (cs : List (Nat × Nat)) (c v : Nat) (h : (cs.map (·.1)).Pairwise (· < ·)) :
    ((insertComp cs c v).map (·.1)).Pairwise (· < ·) := by
  fun_induction insertComp cs c v with
  | case1 => exact List.pairwise_singleton _ _
  | case2 c' v' rest hpc => exact beq_iff_eq.mp hpc ▸ h
  | case3 c' v' rest _ hlt =>
    exact List.pairwise_cons.mpr
      ⟨fun x hx => (List.mem_cons.mp hx).elim (· ▸ hlt) fun hx => Nat.lt_trans hlt (List.rel_of_pairwise_cons h hx), h⟩
  | case4 c' v' rest hpc hlt ih =>
    obtain ⟨hk, hps⟩ := List.pairwise_cons.mp h
    have hpc' : c' < c := Nat.lt_of_le_of_ne (Nat.le_of_not_lt hlt) fun h => hpc (beq_iff_eq.mpr h)
    exact List.pairwise_cons.mpr ⟨fun x hx => (mem_keys_insertComp.mp hx).elim (· ▸ hpc') (hk x), ih hps⟩

theorem setComps_keys (w : World) (e : Nat) (cs : List (Nat × Nat)) : (w.setComps e cs).map (·.1) = w.map (·.1) := by
  simp only [setComps, List.map_map]
  apply List.map_congr_left
  intro p _
  simp only [Function.comp]
  split <;> rfl

/-! ### what the world operations of `applyOp` do to `has` -/

theorem has_spawn {w : World} {e : Nat} (hal : w.alive e = false) (e' c' : Nat) :
    (w ++ [(e, [])]).has e' c' = w.has e' c' := by
  rw [has_def, has_def, comps_append_new _ hal]

theorem has_insert {w : World} {e : Nat} (hal : w.alive e = true) (c v e' c' : Nat) :
    (w.setComps e (insertComp (w.comps e) c v)).has e' c' = true ↔ w.has e' c' = true ∨ (c' = c ∧ e' = e) := by
  rw [has_iff, has_iff, comps_setComps, hal, if_pos rfl]
  by_cases he : e' = e
  · rw [if_pos he, mem_keys_insertComp, he, and_iff_left rfl, or_comm]
  · rw [if_neg he, or_iff_left (fun h => he h.2)]

theorem has_remove {w : World} {e : Nat} (hal : w.alive e = true) (c e' c' : Nat) :
    (w.setComps e ((w.comps e).filter (fun p => p.1 != c))).has e' c' = true ↔ w.has e' c' = true ∧ ¬(c' = c ∧ e' = e) := by
  rw [has_iff, has_iff, comps_setComps, hal, if_pos rfl]
  by_cases he : e' = e
  · rw [if_pos he, he, and_iff_left rfl, List.mem_map, List.mem_map]
    constructor
    · rintro ⟨p, hp, rfl⟩
      obtain ⟨hp, hne⟩ := List.mem_filter.mp hp
      exact ⟨⟨p, hp, rfl⟩, by simpa using hne⟩
    · rintro ⟨⟨p, hp, rfl⟩, hne⟩
      exact ⟨p, List.mem_filter.mpr ⟨hp, by simpa using hne⟩, rfl⟩
  · rw [if_neg he, and_iff_left (fun h => he h.2)]

theorem has_despawn (w : World) (e e' c' : Nat) :
    World.has (w.filter (fun p => p.1 != e)) e' c' = true ↔ w.has e' c' = true ∧ e' ≠ e := by
  rw [has_def, has_def, comps_filter_ne]
  by_cases he : e' = e
  · rw [if_pos he]
    exact ⟨fun h => (nomatch h), fun h => absurd he h.2⟩
  · rw [if_neg he, and_iff_left he]

end World

structure Mirror (w : World) (reg : Registry) : Prop where
  wf : ShapeWF (shape reg)
  mirror : ∀ c e, memS (shape reg) c e ↔ w.has e c = true

theorem Setup.typeOf_id {su : Setup} {c : Nat} {ty : CtxType} (h : su.typeOf c = some ty) : ty.id = c := by
  simpa using List.find?_some h

theorem removeComps_shape {t : Tick} {e : Nat} {cs : List Nat} {reg reg' : Registry} {dl : List Delivery}
    (h : ShapeWF (shape reg)) (hr : chain (fun c reg => reg.remove t c e) cs reg = some (reg', dl)) :
    ShapeWF (shape reg') ∧ (∀ c' e', memS (shape reg') c' e' ↔ (memS (shape reg) c' e' ∧ ¬ (c' ∈ cs ∧ e' = e))) := by
  induction cs generalizing reg dl with
  | nil => cases hr; exact ⟨h, by simp⟩
  | cons c cs ih =>
    obtain ⟨reg₁, dl₁, dl₂, h₁, h₂, _⟩ := chain_cons_eq_some.mp hr
    obtain ⟨hwf₁, hm₁⟩ := Registry.remove_shape h h₁
    obtain ⟨hwf₂, hm₂⟩ := ih hwf₁ h₂
    exact ⟨hwf₂, fun c' e' => by rw [hm₂, hm₁, List.mem_cons, and_assoc, ← not_or, ← or_and_right]⟩

theorem Mirror.of_shape_eq {w : World} {reg reg' : Registry} (h : Mirror w reg) (hs : shape reg' = shape reg) :
    Mirror w reg' :=
  ⟨hs ▸ h.wf, hs ▸ h.mirror⟩

theorem mirror_appPred (su : Setup) : AppPred su Mirror where
  op st o st' dl h hop := by
    have ⟨hwf, hm⟩ := h
    refine applyOp_elim hop h ?_ ?_ ?_ ?_ ?_ ?_
    · exact fun e hal => ⟨hwf, fun c e' => by rw [hm, World.has_spawn hal]⟩
    · intro e c v hal hhad
      refine ⟨hwf, fun c' e' => ?_⟩
      rw [hm, World.has_insert hal]
      exact ⟨Or.inl, fun h => h.elim id fun h => h.2 ▸ h.1 ▸ hhad⟩
    · rintro e c v ty hal hty hnot w' rfl
      have htyid := Setup.typeOf_id hty
      obtain ⟨hwf', hm'⟩ := Registry.add_shape hwf (su.factory _) ty e (by rw [htyid, hm, hnot]; simp)
      exact ⟨hwf', fun c' e' => by rw [hm', hm, World.has_insert hal, htyid]⟩
    · intro e c reg' dl' hal _ hr
      obtain ⟨hwf', hm'⟩ := Registry.remove_shape hwf hr
      exact ⟨hwf', fun c' e' => by rw [hm', hm, World.has_remove hal]⟩
    · intro e reg' dl' _ hr
      obtain ⟨hwf', hm'⟩ := removeComps_shape hwf hr
      refine ⟨hwf', fun c' e' => ?_⟩
      rw [hm', hm, World.has_despawn]
      -- a component that `e` has is one of those that were removed
      exact and_congr_right fun h => ⟨fun hn he => hn ⟨he ▸ World.has_iff.mp h, he⟩, fun hne hh => hne hh.2⟩
    · exact fun reg' dl' hr => chain_preserves (fun h hr => h.of_shape_eq (Registry.rebuild_shape hr)) h hr
  update w reg r t o h hu := h.of_shape_eq (Registry.update_shape hu)

theorem mirror_init : Mirror [] [] :=
  ⟨⟨List.nodup_nil, by simp [shape], by simp [shape]⟩, by intro c e; simp [memS, shape, World.has, World.comps]⟩

/-- the registry mirrors the world in every reachable state -/
theorem Reachable.mirror {su : Setup} {st : AppState} (h : Reachable su st) : Mirror st.world st.reg :=
  reachable_pred (mirror_appPred su) mirror_init h

theorem Registry.get_eq (reg : Registry) (c e : Nat) :
    reg.get c e = (reg.index c).bind fun gi => reg[gi]?.bind (·.ctxOf e) := by
  unfold Registry.get
  cases reg.index c with
  | none => rfl
  | some gi =>
    dsimp only [Option.bind_some]
    cases reg[gi]? with
    | none => rfl
    | some g => cases g <;> rfl

theorem Registry.index_isSome_iff_memS {reg : Registry} (hwf : ShapeWF (shape reg)) (c : Nat) :
    (reg.index c).isSome ↔ ∃ e, memS (shape reg) c e := by
  simp only [memS_shape_iff hwf]
  constructor
  · intro h
    obtain ⟨gi, hi⟩ := Option.isSome_iff_exists.mp h
    obtain ⟨g, hg, _⟩ := Registry.index_spec hi
    obtain ⟨e, he⟩ := List.exists_mem_of_ne_nil _ (hwf.nonempty (g.ty, g.entities) (List.mem_map_of_mem (List.mem_of_getElem? hg)))
    exact ⟨e, gi, hi, g, hg, he⟩
  · rintro ⟨e, gi, hi, _⟩
    rw [hi]
    rfl

theorem Registry.get_iff_memS {reg : Registry} (hwf : ShapeWF (shape reg)) (c e : Nat) :
    (reg.get c e).isSome ↔ memS (shape reg) c e := by
  simp only [Registry.get_eq, Option.isSome_bind, Option.any_eq_true, Group.ctxOf_isSome, memS_shape_iff hwf]

theorem Registry.remove_get {reg reg' : Registry} {t : Tick} {c e : Nat} {dl : List Delivery} (hwf : ShapeWF (shape reg))
    (hr : reg.remove t c e = some (reg', dl)) :
    (∃ ctx, reg.get c e = some ctx ∧ ctx.triggerRemoved t [e] = some dl)
    ∧ reg'.get c e = none
    ∧ (∀ d ∈ dl, d.entity = e) := by
  obtain ⟨gi, g, ctx, g', hidx, hg, hrem, htr, _⟩ := Registry.remove_char hr
  obtain ⟨hwf', hm'⟩ := Registry.remove_shape hwf hr
  refine ⟨⟨ctx, by rw [Registry.get_eq, hidx, Option.bind_some, hg, Option.bind_some, (Group.remove_spec hrem).1], htr⟩, ?_,
    fun d hd => List.mem_singleton.mp (ContextInstance.triggerRemoved_entity htr d hd)⟩
  exact Option.not_isSome_iff_eq_none.mp fun h => ((hm' c e).mp ((Registry.get_iff_memS hwf' c e).mp h)).2 ⟨rfl, rfl⟩

end BEI
