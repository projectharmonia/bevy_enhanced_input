/-
  Characterisation of one `ActionBind::update` in declarative terms: `ActionBind.UpdateChar`, where the evaluate-then-merge form
  of the input loop (Proofs/Loop), its invariant and the law (Proofs/Law) meet.
-/
import BEI.Proofs.Loop
import BEI.Proofs.Frame
namespace BEI

/-- What one evaluated input is: its condition results are those of its conditions on its modified raw value, its state
    obeys the law, and its flags describe its results. -/
structure EvalSpec (r : Reader) (av : ActionsView) (t : Tick) (b : InputBind) (e : Ev) : Prop where
  input : e.input = b.input
  value : e.tracker.value = runMods av t b.mods (r.value b.input)
  results : e.results = runConds av t b.conds e.tracker.value
  state : e.state = lawState e.results e.tracker.value.asBool
  flags : TInv e.tracker e.results

theorem evalInput_spec {r : Reader} {av : ActionsView} {t : Tick} {b : InputBind} {e : Ev}
    (h : (evalInput r av t b).2.1 = some e) : EvalSpec r av t b e := by
  rw [evalInput_ev] at h
  split at h <;> cases h
  obtain ⟨hv, hi⟩ := (TInv.new (r.value b.input)).applyLevel av t b.mods b.conds
  exact ⟨rfl, hv, congrArg (runConds av t b.conds) hv.symm, TInv.state_eq hi, hi⟩

theorem evalInput_log_ids (r : Reader) (av : ActionsView) (t : Tick) (b : InputBind) :
    (evalInput r av t b).2.2.map Inv.id =
      if suppressed r b then [] else b.mods.map (·.id) ++ b.conds.map (·.id) := by
  unfold evalInput suppressed
  split
  · rfl
  · simp only [List.map_append, Tracker.applyModifiers_ids, Tracker.applyConditions_ids]

theorem evalInput_ids (r : Reader) (av : ActionsView) (t : Tick) (b : InputBind) :
    ((evalInput r av t b).1.input, (evalInput r av t b).1.mods.map (·.id), (evalInput r av t b).1.conds.map (·.id))
      = (b.input, b.mods.map (·.id), b.conds.map (·.id)) := by
  unfold evalInput
  split
  · rfl
  · simp only [Tracker.applyModifiers_ids, Tracker.applyConditions_ids]

namespace ActionBind

/-! Four abbreviations for `UpdateChar`; the statements of C03, C04, C05 spell the same terms out (they are the same by `rfl`). -/

/-- the evaluated inputs that contribute to the action (C04) -/
abbrev contrib (ab : ActionBind) (r : Reader) (av : ActionsView) (t : Tick) : List Ev :=
  contributing (evalAll r av t ab.bindings)

/-- their merged value after the action-level modifiers -/
abbrev levelValue (ab : ActionBind) (r : Reader) (av : ActionsView) (t : Tick) : Value :=
  runMods av t ab.mods (mergedValue ab.dim ab.accum ((ab.contrib r av t).map (·.tracker.value)))

/-- the condition results the law is applied to: those of the contributing inputs, then the action-level ones -/
abbrev results (ab : ActionBind) (r : Reader) (av : ActionsView) (t : Tick) : List Res :=
  (ab.contrib r av t).flatMap (·.results) ++ runConds av t ab.conds (ab.levelValue r av t)

/-- the state the action ends the frame in: the law applied to `results` -/
abbrev levelState (ab : ActionBind) (r : Reader) (av : ActionsView) (t : Tick) : AState :=
  lawState (ab.results r av t) (ab.levelValue r av t).asBool

/-- What a successful `ActionBind::update` returns, in declarative terms: `UpdateSome` says where state and value go, this says
    which state and value they are, and what is suppressed, consumed, logged and kept. -/
structure UpdateChar (ab : ActionBind) (r : Reader) (av : ActionsView) (t : Tick) (es : List Nat) (o : ActionBind.Out)
    (old : ActionData) : Prop
    extends ActionBind.UpdateSome ab r av t es o old (ab.levelState r av t) (ab.levelValue r av t) where
  eventsBlocked : o.eventsBlocked = lawEventsBlocked (ab.results r av t)
  consumed : o.consumed = (if ab.consume && ab.levelState r av t != .none then (ab.contrib r av t).map (·.input) else [])
  log : o.log.map Inv.id =
    ab.bindings.flatMap (fun b => if suppressed r b then [] else b.mods.map (·.id) ++ b.conds.map (·.id))
      ++ ab.mods.map (·.id) ++ ab.conds.map (·.id)
  mods : o.bind.mods.map (·.id) = ab.mods.map (·.id)
  conds : o.bind.conds.map (·.id) = ab.conds.map (·.id)
  bindings : o.bind.bindings = ab.bindings.map (fun b => (evalInput r av t b).1)

theorem update_char {ab : ActionBind} {r : Reader} {av : ActionsView} {t : Tick} {es : List Nat} {o : ActionBind.Out}
    (h : ab.update r av t es = some o) : ∃ old, ab.UpdateChar r av t es o old := by
  have hinv := MInv.fold ab (evalAll r av t ab.bindings) [] _ (MInv.init ab) fun e he =>
    let ⟨b, _, hb⟩ := List.mem_filterMap.mp he; (evalInput_spec hb).flags
  rw [ActionBind.update_eq_map] at h
  obtain ⟨old, hold, rfl⟩ := Option.map_eq_some_iff.mp h
  simp only [ActionBind.loopInputs_eq, List.nil_append] at hinv ⊢
  obtain ⟨hv, hi⟩ := hinv.flags.applyLevel av t ab.mods ab.conds
  rw [hinv.val] at hv hi
  -- the same terms under the names `UpdateChar` uses
  have hv : _ = ab.levelValue r av t := hv
  have hst : _ = ab.levelState r av t := (TInv.state_eq hi).trans (by rw [hv])
  exact ⟨old, {
    old_eq := hold
    actions := by rw [← hst, ← hv]
    deliveries := by rw [← hst, ← hv]
    reader := rfl
    action := rfl
    dim := rfl
    eventsBlocked := hi.eb
    consumed := by
      simp only [← hst, hinv.buf]
      cases ab.consume <;> rfl
    log := by
      simp only [List.map_append, List.map_flatMap, evalInput_log_ids, Tracker.applyModifiers_ids, Tracker.applyConditions_ids]
    mods := (Tracker.applyModifiers_ids av t _ _).2
    conds := (Tracker.applyConditions_ids av t _ _).2
    bindings := rfl }⟩

end ActionBind

/-- `update` succeeds whenever the action has an `ActionsData` entry (the only `expect` on the path) -/
theorem ActionBind.update_total (ab : ActionBind) (r : Reader) (av : ActionsView) (t : Tick) (es : List Nat)
    (h : (av.get? ab.action).isSome) : (ab.update r av t es).isSome := by
  rw [ActionBind.update_eq_map]
  exact Option.isSome_map.trans h

end BEI
