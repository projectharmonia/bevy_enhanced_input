/-
  The algebra of the input reader. A reading is the inactive one if the input is masked by the consumed set
  (`hiddenBy`) and otherwise does not depend on that set (`value_eq`); consuming `i` under gamepad selection `dev` adds
  to the masked inputs, under selection `d`, exactly those with `hidesAt dev d i` (`hiddenBy_consume`). What C05, C15
  and C17 say about which readings `consume` changes follows from these two by Boolean reasoning; that it leaves the raw
  input, the gamepad selection and the UI flag (C16) alone is `consume_raw`, `consume_device`, `consume_uiWantsMouse`.
  The vocabulary (`hides`, `hiddenBy`, `inactive`, … and `hidesAt`) is defined here, below the property files, in the
  namespaces of C05 and C17, whose statements use it.
-/
import BEI.Model.Reader
namespace BEI.Props.C05

/-- modifier keys an input requires -/
def modsOf : Input → ModKeys
  | .key _ m => m | .mbtn _ m => m | .motion m => m | .wheel m => m | .padBtn _ => {} | .padAxis _ => {}

/-- same physical source (for gamepad inputs: read through the same gamepad setting) -/
def sameSource : Input → Input → Bool
  | .key k _, .key k' _ => k == k'
  | .mbtn b _, .mbtn b' _ => b == b'
  | .motion _, .motion _ => true
  | .wheel _, .wheel _ => true
  | .padBtn b, .padBtn b' => b == b'
  | .padAxis x, .padAxis x' => x == x'
  | _, _ => false

/-- `i` hides `j`: same source, or `j` requires a modifier key `i` used -/
def hides (i j : Input) : Bool := sameSource i j || (modsOf i).intersects (modsOf j)

/-- the inactive reading of an input -/
def inactive : Input → Value
  | .key _ _ => .bool false | .mbtn _ _ => .bool false | .motion _ => .a2 0 0 | .wheel _ => .a2 0 0
  | .padBtn _ => .bool false | .padAxis _ => .a1 0

/-- `j` is masked by the consumed set `c` when read through device `dev` -/
def hiddenBy (c : Consumed) (dev : Device) : Input → Bool
  | .key k m => c.keys.contains k || c.mods.intersects m
  | .mbtn b m => c.mouseButtons.contains b || c.mods.intersects m
  | .motion m => c.motion || c.mods.intersects m
  | .wheel m => c.wheel || c.mods.intersects m
  | .padBtn b => c.padButtons.contains (dev, b)
  | .padAxis x => c.padAxes.contains (dev, x)

end BEI.Props.C05

namespace BEI.Props.C17

/-- `i`, consumed while the reader's gamepad selection was `dev`, masks `j` when read under selection `d` -/
def hidesAt (dev d : Device) (i j : Input) : Bool :=
  match i, j with
  | .padBtn b, .padBtn b' => b == b' && dev == d
  | .padAxis x, .padAxis x' => x == x' && dev == d
  | _, _ => C05.hides i j

end BEI.Props.C17

namespace BEI
open BEI.Props.C05 BEI.Props.C17

namespace ModKeys

theorem intersects_union (a b c : ModKeys) : (a.union b).intersects c = (a.intersects c || b.intersects c) := by
  simp only [intersects, union, Bool.and_or_distrib_right]
  ac_rfl

theorem empty_intersects (m : ModKeys) : ({} : ModKeys).intersects m = false := rfl

theorem intersects_empty (m : ModKeys) : m.intersects {} = false := by
  simp only [intersects, Bool.and_false, Bool.or_false]

end ModKeys

theorem Pad.clamp1_of_range {q : Rat} (h1 : -1 ≤ q) (h2 : q ≤ 1) : Pad.clamp1 q = q := by
  rw [Pad.clamp1, if_neg (Rat.not_lt.mpr h1), if_neg (Rat.not_lt.mpr h2)]

namespace Reader

theorem consume_raw (r : Reader) (i : Input) : (r.consume i).raw = r.raw := by cases i <;> rfl

theorem consume_device (r : Reader) (i : Input) : (r.consume i).device = r.device := by cases i <;> rfl

theorem consume_uiWantsMouse (r : Reader) (i : Input) :
    (r.consume i).consumed.uiWantsMouse = r.consumed.uiWantsMouse := by cases i <;> rfl

theorem foldl_consume_device (is : List Input) (r : Reader) : (is.foldl consume r).device = r.device :=
  List.foldlRecOn (motive := fun x => x.device = r.device) is consume rfl fun x hx i _ => (consume_device x i).trans hx

theorem foldl_consume_raw (is : List Input) (r : Reader) : (is.foldl consume r).raw = r.raw :=
  List.foldlRecOn (motive := fun x => x.raw = r.raw) is consume rfl fun x hx i _ => (consume_raw x i).trans hx

theorem activeUnconsumed_congr {r r' : Reader} (h1 : r.raw = r'.raw) (h2 : r.device = r'.device) :
    r.activeUnconsumed = r'.activeUnconsumed := by
  have h : ∀ r : Reader, r.activeUnconsumed = ({ raw := r.raw, device := r.device } : Reader).activeUnconsumed :=
    fun _ => rfl
  rw [h r, h r', h1, h2]

theorem activeUnconsumed_consume (r : Reader) (i : Input) : (r.consume i).activeUnconsumed = r.activeUnconsumed :=
  activeUnconsumed_congr (consume_raw r i) (consume_device r i)

/-- the same reader before anything was consumed in this frame (the UI flag is not part of the consumed inputs) -/
def unconsumed (r : Reader) : Reader := { r with consumed := { uiWantsMouse := r.consumed.uiWantsMouse } }

theorem unconsumed_consume (r : Reader) (i : Input) : (r.consume i).unconsumed = r.unconsumed := by cases i <;> rfl

theorem unconsumed_setGamepad (r : Reader) (d : Device) : (r.setGamepad d).unconsumed = r.unconsumed.setGamepad d := rfl

/-- a reading depends on the consumed set only through `hiddenBy` (and the UI flag) -/
theorem value_eq (r : Reader) (j : Input) :
    r.value j = if hiddenBy r.consumed r.device j then inactive j else r.unconsumed.value j := by
  cases j with
  | key k m | mbtn k m | motion m | wheel m =>
    rw [value, modKeysPressed]
    cases h : hiddenBy r.consumed r.device _
    · rw [hiddenBy, Bool.or_eq_false_iff] at h
      rw [h.1, h.2]
      rfl
    · rw [hiddenBy, Bool.or_eq_true] at h
      rcases h with h | h <;>
        simp only [h, Bool.not_true, Bool.not_false, Bool.and_false, Bool.false_and, Bool.or_true, Bool.true_or, if_true,
          inactive]
  -- the same `if` on both sides: the reading of `r.unconsumed` tests membership in an empty list and is then the left `else`
  | padBtn b | padAxis b => rfl

/-- what `consume` adds to the masked inputs, read under any gamepad selection -/
theorem hiddenBy_consume (r : Reader) (i j : Input) (d : Device) :
    hiddenBy (r.consume i).consumed d j = (hiddenBy r.consumed d j || hidesAt r.device d i j) := by
  cases i <;> simp only [consume] <;> cases j <;>
    simp only [hiddenBy, hidesAt, hides, sameSource, modsOf, List.contains_cons,
      ModKeys.intersects_union, ModKeys.intersects_empty, ModKeys.empty_intersects, Bool.or_false, Bool.false_or,
      Bool.true_or, Bool.or_true, Bool.or_assoc]
  -- left: key/key, mbtn/mbtn, then padBtn/padBtn, padAxis/padAxis — the kinds whose consumed set is a list: `contains_cons`
  -- compares the other way round
  · rw [BEq.comm]; ac_rfl
  · rw [BEq.comm]; ac_rfl
  · rw [Bool.or_comm, Bool.and_comm, BEq.comm (a := r.device), BEq.comm (α := Nat)]; rfl
  · rw [Bool.or_comm, Bool.and_comm, BEq.comm (a := r.device), BEq.comm (α := Nat)]; rfl

theorem hidesAt_self (d : Device) (i j : Input) : hidesAt d d i j = hides i j := by
  unfold hidesAt
  split <;> simp only [hides, sameSource, modsOf, ModKeys.empty_intersects, Bool.or_false, beq_self_eq_true, Bool.and_true]

theorem value_consume (r : Reader) (i j : Input) (d : Device) :
    ((r.consume i).setGamepad d).value j =
      (if hidesAt r.device d i j then inactive j else (r.setGamepad d).value j) := by
  rw [value_eq, value_eq (r.setGamepad d), unconsumed_setGamepad, unconsumed_consume]
  show (if hiddenBy (r.consume i).consumed d j then _ else _) = if _ then _ else if hiddenBy r.consumed d j then _ else _
  rw [hiddenBy_consume]
  cases hiddenBy r.consumed d j <;> cases hidesAt r.device d i j <;> rfl

theorem value_consume_self (r : Reader) (i j : Input) :
    (r.consume i).value j = if hides i j then inactive j else r.value j := by
  show ((r.consume i).setGamepad (r.consume i).device).value j = _
  rw [consume_device, value_consume, hidesAt_self]
  rfl

theorem value_foldl_consume (is : List Input) (r : Reader) (j : Input) :
    (is.foldl consume r).value j = if is.any (hides · j) then inactive j else r.value j := by
  induction is generalizing r with
  | nil => rfl
  | cons i is ih =>
    rw [List.foldl_cons, ih, value_consume_self, List.any_cons]
    cases hides i j <;> cases is.any (hides · j) <;> rfl

end Reader
end BEI
