/-
  The input loop of `ActionBind::update` split into "evaluate every input" and "merge the evaluated inputs",
  and the declarative description of the merge.
-/
import BEI.Proofs.Law
namespace BEI

/-- an evaluated input: which input, its tracker after its own modifiers and conditions, and the condition results -/
structure Ev where
  input : Input
  tracker : Tracker
  results : List Res

namespace Ev
def state (e : Ev) : AState := e.tracker.state
end Ev

/-- evaluation of one input binding (independent of the merge accumulator):
    `none` while the binding is still suppressed (held since creation) -/
def evalInput (r : Reader) (av : ActionsView) (t : Tick) (b : InputBind) : InputBind × Option Ev × List Inv :=
  if b.ignored && r.activeUnconsumed b.input then (b, none, [])
  else
    let cur := Tracker.new (r.value b.input)
    let rm := cur.applyModifiers av t b.mods
    let rc := rm.1.applyConditions av t b.conds
    ({ b with mods := rm.2.1, conds := rc.2.1, ignored := false },
     some { input := b.input, tracker := rc.1, results := resultsOf rc.2.2 },
     rm.2.2 ++ rc.2.2)

/-- whether a binding is still under the initial held-input suppression in this evaluation -/
def suppressed (r : Reader) (b : InputBind) : Bool := b.ignored && r.activeUnconsumed b.input

theorem evalInput_of_suppressed {r : Reader} {b : InputBind} (av : ActionsView) (t : Tick) (h : suppressed r b = true) :
    evalInput r av t b = (b, none, []) := if_pos h

theorem evalInput_ev (r : Reader) (av : ActionsView) (t : Tick) (b : InputBind) :
    (evalInput r av t b).2.1 = if suppressed r b then none else
      some { input := b.input,
             tracker := (((Tracker.new (r.value b.input)).applyModifiers av t b.mods).1.applyConditions av t b.conds).1,
             results := runConds av t b.conds (runMods av t b.mods (r.value b.input)) } := by
  unfold evalInput suppressed
  split
  · rfl
  · exact congrArg (fun rs => some (Ev.mk _ _ rs))
      ((Tracker.applyConditions_results av t _ _).trans (congrArg _ (Tracker.applyModifiers_value av t _ _)))

/-- the merge of one evaluated input into the accumulator (the `match current_state.cmp(&tracker_state)`) -/
def mergeStep (ab : ActionBind) (acc : LoopAcc) (e : Ev) : LoopAcc :=
  if e.state == .none then acc
  else
    match AState.cmp e.state acc.trackerState with
    | .lt => acc
    | .eq => { acc with tracker := acc.tracker.combine e.tracker ab.accum,
                        consumeBuffer := if ab.consume then acc.consumeBuffer ++ [e.input] else acc.consumeBuffer }
    | .gt => { acc with tracker := acc.tracker.overwrite e.tracker, trackerState := e.state,
                        consumeBuffer := if ab.consume then [e.input] else acc.consumeBuffer }

theorem ActionBind.stepInput_eq (ab : ActionBind) (r : Reader) (av : ActionsView) (t : Tick) (acc : LoopAcc) (b : InputBind) :
    ab.stepInput r av t acc b =
      ((evalInput r av t b).1,
       match (evalInput r av t b).2.1 with
       | none => acc
       | some e => mergeStep ab { acc with log := acc.log ++ (evalInput r av t b).2.2 } e) := by
  by_cases hs : suppressed r b = true
  · rw [evalInput_of_suppressed av t hs]
    exact if_pos hs
  · rw [show evalInput r av t b = _ from if_neg hs]
    refine (if_neg hs).trans ?_
    simp only [mergeStep, Ev.state, List.append_assoc]
    cases Tracker.state _ == AState.none
    · cases AState.cmp _ acc.trackerState <;> rfl
    · rfl

theorem mergeStep_withLog (ab : ActionBind) (acc : LoopAcc) (e : Ev) (l : List Inv) :
    mergeStep ab { acc with log := l } e = { mergeStep ab acc e with log := l } := by
  unfold mergeStep
  cases e.state == .none
  · cases AState.cmp e.state acc.trackerState <;> rfl
  · rfl

theorem foldl_mergeStep_withLog (ab : ActionBind) (l : List Inv) (es : List Ev) (acc : LoopAcc) :
    es.foldl (mergeStep ab) { acc with log := l } = { es.foldl (mergeStep ab) acc with log := l } :=
  List.foldl_hom (fun a : LoopAcc => { a with log := l }) fun a e => mergeStep_withLog ab a e l

/-- evaluated inputs of a list of bindings, in binding order (suppressed ones are dropped) -/
def evalAll (r : Reader) (av : ActionsView) (t : Tick) (bs : List InputBind) : List Ev :=
  bs.filterMap (fun b => (evalInput r av t b).2.1)

/-- the whole loop = map `evalInput` over the bindings, fold `mergeStep` over the evaluated ones, append the logs -/
theorem ActionBind.loopInputs_eq (ab : ActionBind) (r : Reader) (av : ActionsView) (t : Tick) :
    ∀ (bs : List InputBind) (acc : LoopAcc),
      ab.loopInputs r av t acc bs = (bs.map (fun b => (evalInput r av t b).1),
        { (evalAll r av t bs).foldl (mergeStep ab) acc with log := acc.log ++ bs.flatMap (fun b => (evalInput r av t b).2.2) })
  | [], acc => by simp [ActionBind.loopInputs, evalAll]
  | b :: bs, acc => by
    simp only [ActionBind.loopInputs, ActionBind.stepInput_eq, ActionBind.loopInputs_eq ab r av t bs, evalAll,
      List.filterMap_cons, List.flatMap_cons, List.map_cons]
    by_cases hs : suppressed r b = true
    · simp [evalInput_of_suppressed av t hs]
    · rw [evalInput_ev, if_neg hs]
      simp only [mergeStep_withLog, foldl_mergeStep_withLog, List.foldl_cons, List.append_assoc]

/-! ### the declarative description of the merge -/

/-- the more significant of two states -/
def AState.maxS (a b : AState) : AState := if a.rank < b.rank then b else a

/-- most significant state among the evaluated inputs (`none` if there is none) -/
def topState (es : List Ev) : AState := es.foldl (fun m e => AState.maxS m e.state) .none

/-- the contributing inputs: those whose own state is the most significant non-None state -/
def contributing (es : List Ev) : List Ev :=
  es.filter (fun e => e.state == topState es && topState es != .none)

/-- how two values are accumulated into the accumulator's dimension (`combine`) -/
def combineValue (acc : Accum) (a b : Value) : Value :=
  let x := a.as3
  let y := b.as3
  match acc with
  | .maxAbs => Value.ofV3 ⟨Tracker.maxAbs1 x.x y.x, Tracker.maxAbs1 x.y y.y, Tracker.maxAbs1 x.z y.z⟩ a.dim
  | .cumulative => Value.ofV3 (x + y) a.dim

/-- the merged value of the contributing inputs, accumulated in binding order into dimension `d` -/
def mergedValue (d : Dim) (acc : Accum) (vs : List Value) : Value :=
  vs.foldl (combineValue acc) (Value.zero d)

theorem topState_append (pre : List Ev) (e : Ev) : topState (pre ++ [e]) = AState.maxS (topState pre) e.state := by
  simp [topState]

theorem AState.le_maxS_left (a b : AState) : a.rank ≤ (a.maxS b).rank := by
  unfold AState.maxS
  split
  · exact Nat.le_of_lt ‹_›
  · exact Nat.le_refl _

theorem AState.le_maxS_right (a b : AState) : b.rank ≤ (a.maxS b).rank := by
  unfold AState.maxS
  split
  · exact Nat.le_refl _
  · exact Nat.le_of_not_lt ‹_›

theorem rank_le_topState (es : List Ev) : ∀ x ∈ es, x.state.rank ≤ (topState es).rank := by
  -- `x` is taken into the fold at some point, and from then on the fold only grows
  intro x hx
  obtain ⟨pre, post, rfl⟩ := List.append_of_mem hx
  rw [topState, List.foldl_append, List.foldl_cons]
  exact List.foldlRecOn post _ (motive := fun m : AState => x.state.rank ≤ m.rank) (AState.le_maxS_right _ _)
    fun m hm e _ => Nat.le_trans hm (AState.le_maxS_left _ _)

theorem Tracker.overwrite_value (a b : Tracker) : (a.overwrite b).value = b.value.convert a.value.dim := rfl

theorem combineValue_dim (acc : Accum) (a b : Value) : (combineValue acc a b).dim = a.dim := by
  cases acc <;> simp [combineValue, Value.ofV3_dim]

theorem Tracker.combine_value (a b : Tracker) (acc : Accum) : (a.combine b acc).value = combineValue acc a.value b.value := by
  cases acc <;> rfl

theorem Tracker.maxAbs1_zero (b : Rat) : Tracker.maxAbs1 0 b = b := by
  unfold Tracker.maxAbs1 Tracker.absR
  grind

/-- overwriting the initial (zero) accumulator is the same as combining the first value into zero: zero is neutral
    for both accumulation modes -/
theorem combineValue_zero (acc : Accum) (d : Dim) (v : Value) :
    combineValue acc (Value.zero d) v = v.convert d := by
  rw [← Value.ofV3_as3]
  cases acc <;> simp only [combineValue, Value.zero_as3, Value.zero_dim, V3.zero, Tracker.maxAbs1_zero]
  show Value.ofV3 (V3.add _ _) d = _
  simp only [V3.add, Rat.zero_add]

-- read off the extracted variant order `Gen.stateOrder`: these are the facts that move if `ActionState` is reordered
@[simp] theorem rank_none : AState.rank .none = 0 := by decide
@[simp] theorem rank_ongoing : AState.rank .ongoing = 1 := by decide
@[simp] theorem rank_fired : AState.rank .fired = 2 := by decide

theorem rank_inj (a b : AState) (h : a.rank = b.rank) : a = b := by
  cases a <;> cases b <;> simp_all

@[simp] theorem cmp_nn : AState.cmp .none .none = .eq := by decide
@[simp] theorem cmp_no : AState.cmp .none .ongoing = .lt := by decide
@[simp] theorem cmp_nf : AState.cmp .none .fired = .lt := by decide

theorem AState.cmp_eq_lt {a b : AState} : a.cmp b = .lt ↔ a.rank < b.rank := Nat.compare_eq_lt
theorem AState.cmp_eq_eq {a b : AState} : a.cmp b = .eq ↔ a = b := Nat.compare_eq_eq.trans ⟨rank_inj a b, congrArg _⟩
theorem AState.cmp_eq_gt {a b : AState} : a.cmp b = .gt ↔ b.rank < a.rank := Nat.compare_eq_gt

/-- the most significant state after one more input, by the cases of `mergeStep` -/
theorem topState_append_cases (pre : List Ev) (e : Ev) :
    topState (pre ++ [e]) =
      if e.state = .none then topState pre
      else match AState.cmp e.state (topState pre) with
        | .lt => topState pre
        | .eq => topState pre
        | .gt => e.state := by
  rw [topState_append]
  cases e.state <;> cases topState pre <;> rfl

/-- how the contributing set evolves when one more evaluated input is appended -/
theorem contributing_append (pre : List Ev) (e : Ev) :
    contributing (pre ++ [e]) =
      if e.state = .none then contributing pre
      else match AState.cmp e.state (topState pre) with
        | .lt => contributing pre
        | .eq => contributing pre ++ [e]
        | .gt => [e] := by
  have hle := rank_le_topState pre
  rw [contributing, topState_append_cases, List.filter_append]
  simp only [contributing, List.filter_cons, List.filter_nil]
  generalize topState pre = m at hle ⊢
  by_cases hn : e.state = .none
  · -- a `None` input is never selected
    rw [if_pos hn, if_pos hn, hn]
    cases m <;> exact List.append_nil _
  · rw [if_neg hn, if_neg hn]
    cases hc : AState.cmp e.state m <;> simp only []
    · -- less significant: not selected, because `e.state ≠ m`
      have hne : e.state ≠ m := fun h => Nat.lt_irrefl _ (h ▸ AState.cmp_eq_lt.mp hc)
      rw [beq_false_of_ne hne]
      exact List.append_nil _
    · cases AState.cmp_eq_eq.mp hc
      rw [beq_self_eq_true, bne_iff_ne.mpr hn]
      rfl
    · -- strictly more significant: selected, and nothing earlier had that state
      have hgt := AState.cmp_eq_gt.mp hc
      have hnil : pre.filter (fun x => x.state == e.state && e.state != .none) = [] :=
        List.filter_eq_nil_iff.mpr fun a ha h =>
          Nat.lt_irrefl _ (Nat.lt_of_le_of_lt (eq_of_beq (Bool.and_eq_true_iff.mp h).1 ▸ hle a ha) hgt)
      rw [hnil, beq_self_eq_true, bne_iff_ne.mpr hn]
      rfl

/-- the invariant of the merge fold: the accumulator describes exactly the contributing inputs of the prefix -/
structure MInv (ab : ActionBind) (pre : List Ev) (acc : LoopAcc) : Prop where
  st : acc.trackerState = topState pre
  buf : acc.consumeBuffer = if ab.consume then (contributing pre).map (·.input) else []
  flags : TInv acc.tracker ((contributing pre).flatMap (·.results))
  val : acc.tracker.value = mergedValue ab.dim ab.accum ((contributing pre).map (·.tracker.value))

theorem MInv.init (ab : ActionBind) :
    MInv ab [] { tracker := Tracker.new (Value.zero ab.dim) } :=
  ⟨rfl, by simp [contributing], TInv.new _, rfl⟩

theorem mergedValue_dim (d : Dim) (acc : Accum) (vs : List Value) : (mergedValue d acc vs).dim = d :=
  List.foldlRecOn vs _ (motive := fun a => a.dim = d) (Value.zero_dim d) fun a ha v _ => (combineValue_dim acc a v).trans ha

theorem MInv.keep {ab : ActionBind} {pre : List Ev} {acc : LoopAcc} {e : Ev} (h : MInv ab pre acc)
    (hc : contributing (pre ++ [e]) = contributing pre) (ht : topState (pre ++ [e]) = acc.trackerState) :
    MInv ab (pre ++ [e]) acc := by
  constructor
  · exact ht.symm
  · rw [hc]; exact h.buf
  · rw [hc]; exact h.flags
  · rw [hc]; exact h.val

theorem MInv.step (ab : ActionBind) (pre : List Ev) (acc : LoopAcc) (e : Ev)
    (h : MInv ab pre acc) (he : TInv e.tracker e.results) : MInv ab (pre ++ [e]) (mergeStep ab acc e) := by
  have hc := contributing_append pre e
  have ht := topState_append_cases pre e
  rw [← h.st] at hc ht
  unfold mergeStep
  by_cases hn : e.state = .none
  · rw [if_pos hn] at hc ht
    rw [if_pos (beq_iff_eq.mpr hn)]
    exact h.keep hc ht
  · rw [if_neg hn] at hc ht
    rw [if_neg (mt beq_iff_eq.mp hn)]
    cases hcmp : AState.cmp e.state acc.trackerState <;> simp only [hcmp] at hc ht ⊢
    · exact h.keep hc ht
    · -- as significant as the contributing inputs so far: `e` joins them
      refine ⟨ht.symm, ?_, ?_, ?_⟩
      · rw [hc, h.buf, List.map_append]
        cases ab.consume <;> rfl
      · rw [hc, List.flatMap_append, List.flatMap_singleton]
        exact TInv.combine _ _ _ _ _ h.flags he
      · rw [hc, Tracker.combine_value, h.val]
        simp [mergedValue]
    · -- more significant than all of them: `e` replaces them
      refine ⟨ht.symm, ?_, ?_, ?_⟩
      · rw [hc, h.buf]
        cases ab.consume <;> rfl
      · rw [hc, List.flatMap_singleton]
        exact TInv.overwrite _ _ _ he
      · rw [hc, Tracker.overwrite_value, h.val, mergedValue_dim]
        exact (combineValue_zero _ _ _).symm

theorem MInv.fold (ab : ActionBind) :
    ∀ (es pre : List Ev) (acc : LoopAcc), MInv ab pre acc → (∀ e ∈ es, TInv e.tracker e.results) →
      MInv ab (pre ++ es) (es.foldl (mergeStep ab) acc) := by
  intro es
  induction es with
  | nil => intro pre acc h _; rwa [List.append_nil]
  | cons e es ih =>
    intro pre acc h hes
    rw [List.forall_mem_cons] at hes
    rw [List.append_cons]
    exact ih _ _ (h.step ab pre acc e hes.1) hes.2

end BEI
