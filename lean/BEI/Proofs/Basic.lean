/-
  The small definitions under one action evaluation, through equations: lookup and update in `ActionsView`, whom
  `trigger_events` delivers to, what `ActionData::update` stores, what `ContextInstance::bind` does to the bound actions and
  the keys of `ActionsData`.
-/
import BEI.Model.App
import BEI.Proofs.Value
namespace BEI

namespace ActionsView

theorem get?_set_same {av : ActionsView} {a : Nat} {d old : ActionData} (h : av.get? a = some old) :
    (av.set a d).get? a = some d := by
  fun_induction ActionsView.set av a d with
  | case1 => cases h
  | case2 k d' rest hk => simp [get?, hk]
  | case3 k d' rest hk ih =>
    simp only [get?, hk] at h ⊢
    exact ih h

theorem get?_set_other {av : ActionsView} {a b : Nat} {d : ActionData} (h : b ≠ a) :
    (av.set a d).get? b = av.get? b := by
  fun_induction ActionsView.set av a d with
  | case1 => rfl
  | case2 k d' rest hk =>
    have : (k == b) = false := by rw [beq_iff_eq.mp hk]; exact beq_false_of_ne h.symm
    simp only [get?, this, Bool.false_eq_true, if_false]
  | case3 k d' rest hk ih => simp only [get?, ih]

theorem keys_set (av : ActionsView) (a : Nat) (d : ActionData) : (av.set a d).map (·.1) = av.map (·.1) := by
  fun_induction ActionsView.set av a d with
  | case1 => rfl
  | case2 => rfl
  | case3 k d' rest hk ih => exact congrArg (k :: ·) ih

theorem get?_isSome_iff_key (av : ActionsView) (a : Nat) : (av.get? a).isSome ↔ a ∈ av.map (·.1) := by
  induction av with
  | nil => simp [ActionsView.get?]
  | cons p rest ih =>
    rw [ActionsView.get?, List.map_cons, List.mem_cons, ← ih]
    by_cases hk : p.1 = a
    · simp [hk]
    · simp [hk, Ne.symm hk]

end ActionsView

theorem mkDelivery_entity (a : Nat) (d : ActionData) (k : EvKind) (e : Nat) : (mkDelivery a d k e).entity = e := by
  cases k <;> rfl

theorem triggerEvents_entity {a : Nat} {d : ActionData} {es : List Nat} {x : Delivery} (h : x ∈ triggerEvents a d es) :
    x.entity ∈ es := by
  obtain ⟨k, _, hx⟩ := List.mem_flatMap.mp h
  obtain ⟨e, he, rfl⟩ := List.mem_map.mp hx
  rwa [mkDelivery_entity]

namespace ActionData

theorem update_state (d : ActionData) (t : Tick) (st : AState) (v : Value) : (d.update t st v).state = st := by rfl

theorem update_value (d : ActionData) (t : Tick) (st : AState) (v : Value) : (d.update t st v).value = v := by rfl

theorem update_events (d : ActionData) (t : Tick) (st : AState) (v : Value) :
    (d.update t st v).events = eventsOf d.state st := by rfl

end ActionData

namespace ContextInstance

theorem bind_of_some {ci : ContextInstance} {a : Nat} {x : ActionData} (h : ci.actions.get? a = some x) (d : Dim) (cons : Bool)
    (acc : Accum) (f : ActionBind → ActionBind) :
    ci.bind a d cons acc f = { ci with bindings := ci.bindings.map (fun b => if b.action == a then f b else b) } := by
  rw [bind, h]

/-- `bind` with a configuration function that keeps the action id: the bound actions and the keys of `ActionsData`
    grow by the action exactly when it was not bound yet -/
theorem bind_keys (ci : ContextInstance) (a : Nat) (d : Dim) (cons : Bool) (acc : Accum) {f : ActionBind → ActionBind}
    (hf : ∀ b, (f b).action = b.action) :
    (ci.bind a d cons acc f).bindings.map (·.action)
        = ci.bindings.map (·.action) ++ (if (ci.actions.get? a).isSome then [] else [a])
    ∧ (ci.bind a d cons acc f).actions
        = ci.actions ++ (if (ci.actions.get? a).isSome then [] else [(a, ActionData.new d)]) := by
  cases h : ci.actions.get? a with
  | some x =>
    rw [bind_of_some h, List.map_map]
    exact ⟨by simp only [Function.comp_def, apply_ite ActionBind.action, hf, ite_self]; exact (List.append_nil _).symm,
      (List.append_nil _).symm⟩
  | none =>
    rw [bind, h]
    exact ⟨by rw [List.map_append, List.map_singleton, hf]; rfl, rfl⟩

end ContextInstance

end BEI
