/-
  Totality ("no `expect` fails, nothing panics") of every operation on well-formed states, and preservation of the
  well-formedness by every operation.
-/
import BEI.Proofs.Mirror
import BEI.Proofs.Update
namespace BEI

/-- bindings and `ActionsData` agree: every bound action has data -/
def CtxWF (ci : ContextInstance) : Prop := ∀ ab ∈ ci.bindings, (ci.actions.get? ab.action).isSome

/-- every instance held by the registry is well formed -/
def RegWF (reg : Registry) : Prop := ∀ g ∈ reg, ∀ ci ∈ g.instances, CtxWF ci

theorem ctxWF_iff (ci : ContextInstance) :
    CtxWF ci ↔ ∀ a ∈ ci.bindings.map (·.action), a ∈ ci.actions.map (·.1) := by
  simp only [CtxWF, ActionsView.get?_isSome_iff_key, List.forall_mem_map]

theorem ContextInstance.triggerRemoved_total {ci : ContextInstance} (t : Tick) (es : List Nat) (h : CtxWF ci) :
    (ci.triggerRemoved t es).isSome := by
  rw [ContextInstance.triggerRemoved_eq, if_pos (by exact h)]
  rfl

theorem ContextInstance.loopActions_total (t : Tick) (es : List Nat) :
    ∀ (bs : List ActionBind) (r : Reader) (av : ActionsView), (∀ a ∈ bs.map (·.action), a ∈ av.map (·.1)) →
      ∃ bs' r' av' dl lg, ContextInstance.loopActions r av t es bs = some (bs', r', av', dl, lg)
        ∧ av'.map (·.1) = av.map (·.1) ∧ bs'.map (·.action) = bs.map (·.action) := by
  intro bs
  induction bs with
  | nil => exact fun r av _ => ⟨[], r, av, [], [], rfl, rfl, rfl⟩
  | cons ab rest ih =>
    intro r av h
    obtain ⟨hab, hrest⟩ := List.forall_mem_cons.mp h
    obtain ⟨o, ho⟩ := Option.isSome_iff_exists.mp (ab.update_total r av t es ((av.get?_isSome_iff_key _).mpr hab))
    obtain ⟨_, _, _, hs⟩ := ActionBind.update_some ho
    have hkeys : o.actions.map (·.1) = av.map (·.1) := by rw [hs.actions]; exact ActionsView.keys_set _ _ _
    obtain ⟨bs', r', av', dl, lg, hl, hk, hb⟩ := ih o.reader o.actions (hkeys ▸ hrest)
    exact ⟨_, _, _, _, _, ContextInstance.loopActions_cons ho hl, by rw [hk, hkeys], by simp [hb, hs.action]⟩

theorem ContextInstance.update_total {ci : ContextInstance} (r : Reader) (t : Tick) (es : List Nat) (h : CtxWF ci) :
    ∃ o, ci.update r t es = some o ∧ CtxWF o.inst := by
  rw [ctxWF_iff] at h
  obtain ⟨bs', r', av', dl, lg, hl, hk, hb⟩ := ContextInstance.loopActions_total t es ci.bindings (r.setGamepad ci.gamepad) ci.actions h
  refine ⟨⟨{ ci with bindings := bs', actions := av' }, r', dl, lg⟩, ContextInstance.update_eq_some.mpr ⟨_, _, hl, rfl⟩, ?_⟩
  rwa [ctxWF_iff, hb, hk]

theorem Registry.updateExclusive_total (t : Tick) : ∀ (is : List (Nat × ContextInstance)) (r : Reader),
    (∀ ci ∈ is.map (·.2), CtxWF ci) →
    ∃ is' r' dl lg, Registry.updateExclusive r t is = some (is', r', dl, lg) ∧ ∀ ci ∈ is'.map (·.2), CtxWF ci := by
  intro is
  induction is with
  | nil => exact fun r _ => ⟨[], r, [], [], rfl, fun _ h => nomatch h⟩
  | cons p ps ih =>
    intro r h
    obtain ⟨hp, hps⟩ := List.forall_mem_cons.mp h
    obtain ⟨o, ho, hwf⟩ := ContextInstance.update_total r t [p.1] hp
    obtain ⟨is', r', dl, lg, hl, hw⟩ := ih o.reader hps
    exact ⟨_, _, _, _, Registry.updateExclusive_cons ho hl, List.forall_mem_cons.mpr ⟨hwf, hw⟩⟩

theorem Registry.update_total (t : Tick) : ∀ {reg : Registry} (r : Reader), RegWF reg →
    ∃ o, Registry.update r t reg = some o ∧ RegWF o.reg := by
  intro reg
  induction reg with
  | nil => exact fun r _ => ⟨_, rfl, fun _ h => nomatch h⟩
  | cons g rest ih =>
    intro r h
    obtain ⟨hg, hrest⟩ := List.forall_mem_cons.mp h
    cases g with
    | exclusive ty is =>
      obtain ⟨is', r', dl, lg, hl, hw⟩ := Registry.updateExclusive_total t is r hg
      obtain ⟨o, ho, hwo⟩ := ih r' hrest
      exact ⟨_, Registry.update_exclusive hl ho, List.forall_mem_cons.mpr ⟨hw, hwo⟩⟩
    | shared ty es ctx =>
      obtain ⟨oc, hoc, hwc⟩ := ContextInstance.update_total r t es (hg ctx (List.mem_singleton.mpr rfl))
      obtain ⟨o, ho, hwo⟩ := ih oc.reader hrest
      exact ⟨_, Registry.update_shared hoc ho, List.forall_mem_cons.mpr ⟨fun ci hci => List.mem_singleton.mp hci ▸ hwc, hwo⟩⟩

/-! ### well-formedness of the world and of the instances is preserved; nothing can fail -/

/-- what `context_instance` builds is well formed for every context type and variant -/
def SetupWF (su : Setup) : Prop := ∀ c v, CtxWF (su.config c v)

/-- the components of each entity are kept sorted by component id without duplicates; each entity is listed once -/
structure WorldOK (w : World) : Prop where
  ents : (w.map (·.1)).Nodup
  comps : ∀ p ∈ w, (p.2.map (·.1)).Pairwise (· < ·)

theorem WorldOK.setComps {w : World} {e : Nat} {cs : List (Nat × Nat)} (h : WorldOK w) (hcs : (cs.map (·.1)).Pairwise (· < ·)) :
    WorldOK (w.setComps e cs) := by
  refine ⟨by rw [World.setComps_keys]; exact h.ents, ?_⟩
  intro p hp
  simp only [World.setComps, List.mem_map] at hp
  obtain ⟨q, hq, rfl⟩ := hp
  split
  · exact hcs
  · exact h.comps q hq

structure Good (w : World) (reg : Registry) : Prop where
  mirror : Mirror w reg
  regwf : RegWF reg
  world : WorldOK w

theorem RegWF.set {reg : Registry} {gi : Nat} {g' : Group} (h : RegWF reg) (hg' : ∀ ci ∈ g'.instances, CtxWF ci) :
    RegWF (reg.set gi g') :=
  fun g₀ hg₀ => (List.mem_or_eq_of_mem_set hg₀).elim (h g₀) (· ▸ hg')

theorem RegWF.put {reg : Registry} {gi : Nat} {g' : Group} (h : RegWF reg) (hg' : ∀ ci ∈ g'.instances, CtxWF ci) :
    RegWF (reg.put gi g') := by
  unfold Registry.put
  split
  · exact fun g₀ hg₀ => h g₀ (List.mem_of_mem_eraseIdx hg₀)
  · exact h.set hg'

theorem RegWF.add {su : Setup} (hs : SetupWF su) {reg : Registry} (w : World) (ty : CtxType) (e : Nat) (h : RegWF reg) :
    RegWF (reg.add (su.factory w) ty e) := by
  rcases Registry.add_char reg (su.factory w) ty e with ⟨i, g₀, hg₀, _, hadd⟩ | ⟨_, hadd⟩
  · exact hadd ▸ h.put fun ci hci =>
      ((g₀.push_spec e _).2.2 ci hci).elim (h g₀ (List.mem_of_getElem? hg₀) ci) (fun h => h ▸ hs _ _)
  · intro g hg ci hci
    simp only [hadd, List.mem_append, List.mem_singleton] at hg
    rcases hg with (hg | rfl) | hg
    · exact h g (List.mem_of_mem_take hg) ci hci
    · rw [(Group.new_spec _ ty e).2.2, List.mem_singleton] at hci
      exact hci ▸ hs _ _
    · exact h g (List.mem_of_mem_drop hg) ci hci

theorem RegWF.remove {reg reg' : Registry} {t : Tick} {c e : Nat} {dl : List Delivery}
    (h : RegWF reg) (hr : reg.remove t c e = some (reg', dl)) : RegWF reg' := by
  obtain ⟨gi, g, ctx, g', _, hg, hrem, _, rfl⟩ := Registry.remove_char hr
  exact h.put fun ci hci => h g (List.mem_of_getElem? hg) ci ((Group.remove_spec hrem).2.2.2 ci hci)

theorem RegWF.rebuild {su : Setup} (hs : SetupWF su) {w : World} {reg reg' : Registry} {t : Tick} {c : Nat}
    {dl : List Delivery} (h : RegWF reg) (hr : reg.rebuild (su.factory w) t c = some (reg', dl)) : RegWF reg' := by
  rcases Registry.rebuild_char hr with rfl | ⟨gi, g, g', _, hre, rfl⟩
  · exact h
  · exact h.set fun ci hci => ((Group.rebuild_spec hre).2.2 ci hci).elim fun _ he => he ▸ hs _ _

/-- removing a holder cannot fail: the group is found, the entity is found in it, and the closing events can be built -/
theorem Registry.remove_total {reg : Registry} {t : Tick} {c e : Nat} (hwf : ShapeWF (shape reg)) (hreg : RegWF reg)
    (hmem : memS (shape reg) c e) : (reg.remove t c e).isSome := by
  obtain ⟨gi, hi, g, hgi, hpe⟩ := (memS_shape_iff hwf).mp hmem
  obtain ⟨⟨ctx, g'⟩, hrem⟩ := Option.isSome_iff_exists.mp (Group.remove_isSome hpe)
  obtain ⟨dl, hdl⟩ := Option.isSome_iff_exists.mp (ContextInstance.triggerRemoved_total t [e]
    (hreg g (List.mem_of_getElem? hgi) ctx (Group.ctxOf_mem_instances (Group.remove_spec hrem).1)))
  simp only [Registry.remove_eq, hi, hgi, hrem, hdl, Option.bind_some, Option.map_some, Option.isSome_some]

theorem Group.rebuild_isSome {g : Group} (mk : Factory) (t : Tick) (c : Nat) (hwf : ∀ ci ∈ g.instances, CtxWF ci)
    (hne : g.entities ≠ []) : (g.rebuild mk t c).isSome := by
  cases g with
  | exclusive ty is =>
    rw [Group.rebuild, Option.isSome_map, Registry.rebuildExclusive_eq,
      if_pos fun (p : Nat × ContextInstance) hp => ContextInstance.triggerRemoved_total t [p.1] (hwf p.2 (List.mem_map_of_mem hp))]
    rfl
  | shared ty es ctx =>
    obtain ⟨dl, hdl⟩ := Option.isSome_iff_exists.mp (ContextInstance.triggerRemoved_total t es (hwf ctx (List.mem_singleton.mpr rfl)))
    cases es with
    | nil => exact absurd rfl hne
    | cons e0 rest => simp [Group.rebuild, hdl]

theorem Registry.rebuild_total {reg : Registry} {mk : Factory} {t : Tick} {c : Nat} (hwf : ShapeWF (shape reg)) (hreg : RegWF reg) :
    (reg.rebuild mk t c).isSome := by
  rw [Registry.rebuild_eq]
  split
  · rfl
  · rename_i gi hi
    obtain ⟨g, hg, _⟩ := Registry.index_spec hi
    have hgm := List.mem_of_getElem? hg
    rw [hg, Option.bind_some, Option.isSome_map]
    exact Group.rebuild_isSome mk t c (hreg g hgm) (hwf.nonempty (g.ty, g.entities) (List.mem_map_of_mem hgm))

theorem regWF_appPred (su : Setup) (hs : SetupWF su) : AppPred su (fun _ reg => RegWF reg) :=
  AppPred.of_registry su (RegWF.add hs) RegWF.remove (RegWF.rebuild hs) fun {reg r t _} h hu => by
    obtain ⟨o', ho', hwf'⟩ := Registry.update_total t r h
    cases ho'.symm.trans hu
    exact hwf'

theorem worldOK_appPred (su : Setup) : AppPred su (fun w _ => WorldOK w) where
  op st o st' dl hw hop := by
    have hcomps := fun e (hal : st.world.alive e = true) => hw.comps _ (World.comps_mem hal)
    refine applyOp_elim hop (motive := fun w _ => WorldOK w) hw ?_ ?_ ?_ ?_ ?_ (fun _ _ _ => hw)
    · intro e hal
      have hnew : e ∉ st.world.map (·.1) := fun h => by rw [(World.alive_iff_mem _ _).mpr h] at hal; cases hal
      refine ⟨?_, fun p hp => (List.mem_append.mp hp).elim (hw.comps p) fun hp => List.mem_singleton.mp hp ▸ List.Pairwise.nil⟩
      rw [List.map_append, List.map_singleton, (List.perm_append_singleton ..).nodup_iff]
      exact List.nodup_cons.mpr ⟨hnew, hw.ents⟩
    · exact fun e c v hal _ => hw.setComps (World.insertComp_sorted _ c v (hcomps e hal))
    · rintro e c v ty hal _ _ _ rfl
      exact hw.setComps (World.insertComp_sorted _ c v (hcomps e hal))
    · exact fun e c _ _ hal _ _ => hw.setComps
        (List.Pairwise.sublist (List.Sublist.map _ List.filter_sublist) (hcomps e hal))
    · exact fun e _ _ _ _ => ⟨List.Pairwise.sublist (List.Sublist.map _ List.filter_sublist) hw.ents,
        fun p hp => hw.comps p (List.mem_filter.mp hp).1⟩
  update _ _ _ _ _ h _ := h

theorem good_appPred (su : Setup) (hs : SetupWF su) : AppPred su Good where
  op st o st' dl h hop :=
    ⟨(mirror_appPred su).op st o st' dl h.mirror hop, (regWF_appPred su hs).op st o st' dl h.regwf hop,
      (worldOK_appPred su).op st o st' dl h.world hop⟩
  update w reg r t o h hu :=
    ⟨(mirror_appPred su).update w reg r t o h.mirror hu, (regWF_appPred su hs).update w reg r t o h.regwf hu, h.world⟩

theorem good_init : Good [] [] where
  mirror := mirror_init
  regwf := fun _ hg => nomatch hg
  world := { ents := List.nodup_nil, comps := fun _ hp => nomatch hp }

theorem Reachable.good {su : Setup} (hs : SetupWF su) {st : AppState} (h : Reachable su st) : Good st.world st.reg :=
  reachable_pred (good_appPred su hs) good_init h

theorem applyOp_total {su : Setup} (hs : SetupWF su) {st : AppState} (h : Good st.world st.reg) (o : Op) :
    (applyOp su st o).isSome := by
  refine applyOp_isSome ?_ ?_ ?_ o
  · exact fun e c _ hhas => Registry.remove_total h.mirror.wf h.regwf ((h.mirror.mirror c e).mpr hhas)
  · -- removing the entity's components one after the other: each is still held when its turn comes
    intro e hal
    refine chain_isSome (I := fun cs reg => ShapeWF (shape reg) ∧ RegWF reg ∧ cs.Nodup ∧ ∀ c ∈ cs, memS (shape reg) c e)
      ?_ _ _ ⟨h.mirror.wf, h.regwf, ?_, ?_⟩
    · rintro c cs reg ⟨hwf, hreg, hnd, hall⟩
      refine ⟨Registry.remove_total hwf hreg (hall c List.mem_cons_self), fun reg₁ dl₁ hx => ?_⟩
      obtain ⟨hwf₁, hm₁⟩ := Registry.remove_shape hwf hx
      obtain ⟨hcn, hnd'⟩ := List.nodup_cons.mp hnd
      exact ⟨hwf₁, hreg.remove hx, hnd', fun c' hc' =>
        (hm₁ c' e).mpr ⟨hall c' (List.mem_cons_of_mem _ hc'), fun hh => hcn (hh.1 ▸ hc')⟩⟩
    · -- strictly ascending component ids are distinct (`Nodup` is `Pairwise (· ≠ ·)`)
      exact (h.world.comps _ (World.comps_mem hal)).imp Nat.ne_of_lt
    · exact fun c hc => (h.mirror.mirror c e).mpr (World.has_iff.mpr hc)
  · refine chain_isSome (I := fun _ reg => ShapeWF (shape reg) ∧ RegWF reg) ?_ _ _ ⟨h.mirror.wf, h.regwf⟩
    rintro ty tysl reg ⟨hwf, hreg⟩
    exact ⟨Registry.rebuild_total hwf hreg,
      fun reg₁ dl₁ hx => ⟨Registry.rebuild_shape hx ▸ hwf, hreg.rebuild hs hx⟩⟩

theorem runQueue_total {su : Setup} (hs : SetupWF su) (reacts : Reactions) :
    ∀ (fuel : Nat) (stack : List QItem) (st : AppState) (k : Nat) (seen : List Delivery),
      Good st.world st.reg → (runQueue su reacts fuel stack st k seen).isSome := by
  intro fuel stack st k seen h
  fun_induction runQueue su reacts fuel stack st k seen with
  | case1 | case2 => rfl
  | case3 _ _ _ _ _ _ _ ih => exact ih h
  | case4 _ o _ st _ _ hop => simpa [hop] using applyOp_total hs h o
  | case5 _ o _ st _ _ st2 dl hop ih => exact ih ((good_appPred su hs).op st o st2 dl h hop)

theorem frame_total {su : Setup} (hs : SetupWF su) {st : AppState} (raw : RawInput) (t : Tick) (reacts : Reactions)
    (posts : List Op) (fuel : Nat) (h : Good st.world st.reg) : (frame su st raw t reacts posts fuel).isSome := by
  obtain ⟨o, ho, _⟩ := Registry.update_total t ({ raw := raw } : Reader).updateState h.regwf
  have hg1 : Good st.world o.reg := (good_appPred su hs).update st.world st.reg _ t o h ho
  obtain ⟨⟨st1, k1, seen1⟩, h1⟩ := Option.isSome_iff_exists.mp
    (runQueue_total hs reacts fuel (o.deliveries.map QItem.deliver) { st with tick := t, reg := o.reg } 0 [] hg1)
  obtain ⟨⟨st2, k2, seen2⟩, h2⟩ := Option.isSome_iff_exists.mp
    (runQueue_total hs reacts fuel (posts.map QItem.op) st1 k1 seen1 (runQueue_pred (good_appPred su hs) hg1 h1))
  exact Option.isSome_iff_exists.mpr ⟨_, frame_eq_some.mpr ⟨_, _, _, _, _, _, _, ho, h1, h2, rfl⟩⟩

end BEI
