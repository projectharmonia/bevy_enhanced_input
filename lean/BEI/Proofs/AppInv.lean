/-
  Lifting registry invariants to every reachable application state (any history of lifecycle operations issued
  between frames, through commands, or from observers during a frame): `Reachable` is what the statements of C02, C06,
  C07, C14 quantify over, `AppPred` what a predicate has to satisfy to hold of every reachable state (`reachable_pred`);
  `applyOp_elim` is the one case analysis of `applyOp`, and `chain` the one loop that `removeComps` and `rebuildAll` both are.
-/
import BEI.Proofs.Reg
namespace BEI

/-- what a predicate on (world, registry) pairs must satisfy to be an invariant of the application -/
structure AppPred (su : Setup) (P : World → Registry → Prop) : Prop where
  op : ∀ (st : AppState) (o : Op) (st' : AppState) (dl : List Delivery),
    P st.world st.reg → applyOp su st o = some (st', dl) → P st'.world st'.reg
  update : ∀ (w : World) (reg : Registry) (r : Reader) (t : Tick) (o : Registry.Out),
    P w reg → Registry.update r t reg = some o → P w o.reg

/-- application states reachable from the empty app by any history -/
inductive Reachable (su : Setup) : AppState → Prop
  | init : Reachable su {}
  | op (st : AppState) (o : Op) (st' : AppState) (dl : List Delivery) :
      Reachable su st → applyOp su st o = some (st', dl) → Reachable su st'
  | frame (st : AppState) (raw : RawInput) (t : Tick) (reacts : Reactions) (posts : List Op) (fuel : Nat) (out : FrameOut) :
      Reachable su st → frame su st raw t reacts posts fuel = some out → Reachable su out.st

theorem runQueue_pred {su : Setup} {P : World → Registry → Prop} (hP : AppPred su P) {reacts : Reactions} {fuel : Nat}
    {stack : List QItem} {st : AppState} {k : Nat} {seen : List Delivery} {st' k' seen'} (h : P st.world st.reg)
    (hr : runQueue su reacts fuel stack st k seen = some (st', k', seen')) : P st'.world st'.reg := by
  fun_induction runQueue su reacts fuel stack st k seen with
  | case1 | case2 => cases hr; exact h
  | case3 _ _ _ _ _ _ _ ih => exact ih h hr
  | case4 => cases hr
  | case5 _ o _ st _ _ st2 dl hop ih => exact ih (hP.op st o st2 dl h hop) hr

/-- a frame is: the registry update, the queue of its deliveries, the queue of the `Update`-stage operations -/
theorem frame_eq_some {su : Setup} {st : AppState} {raw : RawInput} {t : Tick} {reacts : Reactions} {posts : List Op}
    {fuel : Nat} {out : FrameOut} :
    frame su st raw t reacts posts fuel = some out ↔
      ∃ o st1 k1 seen1 st2 k2 seen2,
        Registry.update ({ raw := raw } : Reader).updateState t st.reg = some o
        ∧ runQueue su reacts fuel (o.deliveries.map .deliver) { st with tick := t, reg := o.reg } 0 [] = some (st1, k1, seen1)
        ∧ runQueue su reacts fuel (posts.map .op) st1 k1 seen1 = some (st2, k2, seen2)
        ∧ out = { st := st2, log := o.log, deliveries := seen2, preCount := seen1.length } := by
  unfold frame
  simp only
  constructor
  · intro h
    split at h
    · cases h
    · split at h
      · cases h
      · split at h <;> cases h
        exact ⟨_, _, _, _, _, _, _, ‹_›, ‹_›, ‹_›, rfl⟩
  · rintro ⟨o, st1, k1, seen1, st2, k2, seen2, ho, h1, h2, rfl⟩
    simp only [ho, h1, h2]

theorem frame_pred {su : Setup} {P : World → Registry → Prop} (hP : AppPred su P)
    {st : AppState} {raw : RawInput} {t : Tick} {reacts : Reactions} {posts : List Op} {fuel : Nat} {out : FrameOut}
    (h : P st.world st.reg) (hf : frame su st raw t reacts posts fuel = some out) : P out.st.world out.st.reg := by
  obtain ⟨o, st1, k1, seen1, st2, k2, seen2, ho, h1, h2, rfl⟩ := frame_eq_some.mp hf
  exact runQueue_pred hP (runQueue_pred hP (hP.update _ _ _ _ _ h ho) h1) h2

theorem reachable_pred {su : Setup} {P : World → Registry → Prop} (hP : AppPred su P) (h0 : P [] [])
    {st : AppState} (hr : Reachable su st) : P st.world st.reg := by
  induction hr with
  | init => exact h0
  | op st o st' dl _ hop ih => exact hP.op st o st' dl ih hop
  | frame st raw t reacts posts fuel out _ hf ih => exact frame_pred hP ih hf

/-! ### what `applyOp` does, once -/

/-- the loop that `removeComps` and `rebuildAll` both are: thread the registry through `f`, collect the deliveries -/
def chain {α : Type} (f : α → Registry → Option (Registry × List Delivery)) :
    List α → Registry → Option (Registry × List Delivery)
  | [], reg => some (reg, [])
  | a :: as, reg =>
    match f a reg with
    | none => none
    | some (reg', dl) =>
      match chain f as reg' with
      | none => none
      | some (reg'', dl') => some (reg'', dl ++ dl')

theorem removeComps_eq_chain (t : Tick) (e : Nat) (cs : List Nat) (reg : Registry) :
    removeComps t e cs reg = chain (fun c reg => reg.remove t c e) cs reg := by
  induction cs generalizing reg with
  | nil => rfl
  | cons c cs ih => simp only [removeComps, ih]; rfl

theorem rebuildAll_eq_chain (mk : Factory) (t : Tick) (tysl : List CtxType) (reg : Registry) :
    rebuildAll mk t tysl reg = chain (fun ty reg => reg.rebuild mk t ty.id) tysl reg := by
  induction tysl generalizing reg with
  | nil => rfl
  | cons ty tysl ih => simp only [rebuildAll, ih]; rfl

section chain
variable {α : Type} {f : α → Registry → Option (Registry × List Delivery)}

theorem chain_cons_eq_some {a : α} {as : List α} {reg reg'' : Registry} {dl : List Delivery} :
    chain f (a :: as) reg = some (reg'', dl) ↔
      ∃ reg' dl₁ dl₂, f a reg = some (reg', dl₁) ∧ chain f as reg' = some (reg'', dl₂) ∧ dl = dl₁ ++ dl₂ := by
  rw [chain]
  constructor
  · intro h
    split at h
    · cases h
    · split at h <;> cases h
      exact ⟨_, _, _, ‹_›, ‹_›, rfl⟩
  · rintro ⟨reg', dl₁, dl₂, h₁, h₂, rfl⟩
    simp only [h₁, h₂]

theorem chain_preserves {Q : Registry → Prop}
    (step : ∀ {a reg reg' dl}, Q reg → f a reg = some (reg', dl) → Q reg')
    {as : List α} {reg reg' : Registry} {dl : List Delivery} (h : Q reg) (hr : chain f as reg = some (reg', dl)) : Q reg' := by
  induction as generalizing reg dl with
  | nil => cases hr; exact h
  | cons a as ih =>
    obtain ⟨reg₁, dl₁, dl₂, h₁, h₂, _⟩ := chain_cons_eq_some.mp hr
    exact ih (step h h₁) h₂

/-- the loop cannot fail when an invariant, which may speak of the items still to come, makes every step succeed and is
    kept by whatever the step returns -/
theorem chain_isSome {I : List α → Registry → Prop}
    (step : ∀ a as reg, I (a :: as) reg → (f a reg).isSome ∧ ∀ reg' dl, f a reg = some (reg', dl) → I as reg')
    (as : List α) (reg : Registry) (h : I as reg) : (chain f as reg).isSome := by
  induction as generalizing reg with
  | nil => rfl
  | cons a as ih =>
    obtain ⟨hs, hI⟩ := step a as reg h
    obtain ⟨⟨reg', dl⟩, h₁⟩ := Option.isSome_iff_exists.mp hs
    obtain ⟨x, hx⟩ := Option.isSome_iff_exists.mp (ih reg' (hI reg' dl h₁))
    simp [chain, h₁, hx]

end chain

/-- every way a lifecycle operation can end without a panic -/
theorem applyOp_elim {su : Setup} {st st' : AppState} {o : Op} {dl : List Delivery} (hop : applyOp su st o = some (st', dl))
    {motive : World → Registry → Prop} (same : motive st.world st.reg)
    (spawn : ∀ e, st.world.alive e = false → motive (st.world ++ [(e, [])]) st.reg)
    (replace : ∀ e c v, st.world.alive e = true → st.world.has e c = true →
      motive (st.world.setComps e (World.insertComp (st.world.comps e) c v)) st.reg)
    (insert : ∀ e c v ty, st.world.alive e = true → su.typeOf c = some ty → st.world.has e c = false →
      ∀ w', w' = st.world.setComps e (World.insertComp (st.world.comps e) c v) →
        motive w' (st.reg.add (su.factory w') ty e))
    (remove : ∀ e c reg' dl, st.world.alive e = true → st.world.has e c = true →
      st.reg.remove st.tick c e = some (reg', dl) →
      motive (st.world.setComps e ((st.world.comps e).filter (fun p => p.1 != c))) reg')
    (despawn : ∀ e reg' dl, st.world.alive e = true →
      chain (fun c reg => reg.remove st.tick c e) ((st.world.comps e).map (·.1)) st.reg = some (reg', dl) →
      motive (st.world.filter (fun p => p.1 != e)) reg')
    (rebuild : ∀ reg' dl,
      chain (fun ty reg => reg.rebuild (su.factory st.world) st.tick ty.id) su.types st.reg = some (reg', dl) →
      motive st.world reg') :
    motive st'.world st'.reg := by
  revert hop
  -- one case per branch of `applyOp`, in the order of its definition; `rintro ⟨⟩` makes `st'`, `dl` what the branch returns
  fun_cases applyOp su st o with
  | case1 | case3 | case4 | case7 | case10 =>
    -- a guard makes the operation do nothing
    rintro ⟨⟩
    exact same
  | case2 e hal =>
    rintro ⟨⟩
    exact spawn e ((Bool.not_eq_true _).mp hal)
  | case5 e c v hal ty hty _ _ hhad =>
    rintro ⟨⟩
    exact replace e c v (by simpa using hal) hhad
  | case6 e c v hal ty hty _ w' hhad =>
    rintro ⟨⟩
    exact insert e c v ty (by simpa using hal) hty ((Bool.not_eq_true _).mp hhad) w' rfl
  | case8 | case11 | case13 =>
    -- the registry operation has failed
    rintro ⟨⟩
  | case9 e c hcond reg' dl' hr =>
    rintro ⟨⟩
    simp only [Bool.or_eq_true, Bool.not_eq_true', not_or, Bool.not_eq_false] at hcond
    exact remove e c _ _ hcond.1 hcond.2 hr
  | case12 e hal reg' dl' hr =>
    rintro ⟨⟩
    exact despawn e _ _ (by simpa using hal) (removeComps_eq_chain .. ▸ hr)
  | case14 reg' dl' hr =>
    rintro ⟨⟩
    exact rebuild _ _ (rebuildAll_eq_chain .. ▸ hr)

/-- a lifecycle operation can only fail inside the registry -/
theorem applyOp_isSome {su : Setup} {st : AppState}
    (remove : ∀ e c, st.world.alive e = true → st.world.has e c = true → (st.reg.remove st.tick c e).isSome)
    (despawn : ∀ e, st.world.alive e = true →
      (chain (fun c reg => reg.remove st.tick c e) ((st.world.comps e).map (·.1)) st.reg).isSome)
    (rebuild : (chain (fun ty reg => reg.rebuild (su.factory st.world) st.tick ty.id) su.types st.reg).isSome)
    (o : Op) : (applyOp su st o).isSome := by
  -- in the three branches where the registry operation has failed the hypotheses are contradicted; the others return `some`
  fun_cases applyOp su st o with
  | case8 e c hcond hr =>
    simp only [Bool.or_eq_true, Bool.not_eq_true', not_or, Bool.not_eq_false] at hcond
    cases hr ▸ remove e c hcond.1 hcond.2
  | case11 e hal hr =>
    rw [removeComps_eq_chain] at hr
    cases hr ▸ despawn e (by simpa using hal)
  | case13 hr =>
    rw [rebuildAll_eq_chain] at hr
    cases hr ▸ rebuild
  | _ => rfl

theorem AppPred.of_registry (su : Setup) {Q : Registry → Prop}
    (add : ∀ {reg} w ty e, Q reg → Q (reg.add (su.factory w) ty e))
    (remove : ∀ {reg t c e reg' dl}, Q reg → reg.remove t c e = some (reg', dl) → Q reg')
    (rebuild : ∀ {reg w t c reg' dl}, Q reg → reg.rebuild (su.factory w) t c = some (reg', dl) → Q reg')
    (update : ∀ {reg r t o}, Q reg → Registry.update r t reg = some o → Q o.reg) :
    AppPred su (fun _ reg => Q reg) where
  op st o st' dl h hop := by
    refine applyOp_elim hop (motive := fun _ reg => Q reg) h (fun _ _ => h) (fun _ _ _ _ _ => h) ?_ ?_ ?_ ?_
    · exact fun e c v ty _ _ _ w' _ => add w' ty e h
    · exact fun e c reg' dl _ _ hr => remove h hr
    · exact fun e reg' dl _ hr => chain_preserves remove h hr
    · exact fun reg' dl hr => chain_preserves rebuild h hr
  update _ _ _ _ _ h hu := update h hu

theorem sorted_appPred (su : Setup) : AppPred su (fun _ reg => SortedDesc reg) :=
  AppPred.of_registry su (fun w ty e h => h.add (su.factory w) ty e) SortedDesc.remove
    (fun h hr => h.of_shape_eq (Registry.rebuild_shape hr)) (fun h hu => h.of_shape_eq (Registry.update_shape hu))

end BEI
