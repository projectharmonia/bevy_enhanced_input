/-
  C18 for the translated source: the algebraic laws of the built-in modifiers stated about the `apply` bodies as they read in
  `/repo/src` now (BEI/Gen/Code/Modifiers.lean), obtained from Props/C18 through the bridge theorems.
-/
import BEI.Bridge.Modifiers
import BEI.Props.C18
namespace BEI.Bridge.Source
open BEI.Rs BEI.Props.C18

/-- `DeadZone::dead_zone` (the scalar helper every dimension and both kinds go through): zero inside the lower threshold,
    magnitude at most one, sign preserved, monotone, saturated from the upper threshold on -/
theorem dead_zone_laws (m : DeadZone) (h0 : 0 ≤ m.lower_threshold) (h : m.lower_threshold < m.upper_threshold) (x y : Rat) :
    (|x| ≤ m.lower_threshold → m.dead_zone x = 0)
    ∧ |m.dead_zone x| ≤ 1
    ∧ 0 ≤ m.dead_zone x * x
    ∧ (x ≤ y → m.dead_zone x ≤ m.dead_zone y)
    ∧ (m.upper_threshold ≤ |x| → |m.dead_zone x| = 1) := by
  rw [deadZone_dead_zone, deadZone_dead_zone]
  exact ⟨deadZone_inside _ _ _ h0 h, deadZone_le_one _ _ _ h, deadZone_sign _ _ _ h, deadZone_mono _ _ _ _ h,
         deadZone_saturates _ _ _ h⟩

/-- `Negate::apply` terminates (fuel 2 suffices), never changes the modifier, and applying it twice gives back the input
    (a `Bool` having become its 0/1 axis value) -/
theorem negate_twice (m : Negate) (v : ActionValue) (n k : Nat) :
    ∃ w u, Negate.applyF (n + 2) m v = some (m, w) ∧ Negate.applyF (k + 2) m w = some (m, u)
      ∧ u.toModel = v.toModel.promote := by
  refine ⟨_, _, negate_apply m v n, negate_apply m _ k, ?_⟩
  simp only [ActionValue.toModel_ofModel]
  exact negate_involution _ _ _ _

/-- `DeltaLerp::apply`: terminates, and in every axis the output lies between the stored previous output and the input, for every
    frame delta (the interpolation factor is clamped) -/
theorem deltaLerp_between_src (m : DeltaLerp) (t : Tick) (v : ActionValue) (n : Nat) (hs : 0 ≤ m.speed) (hd : 0 ≤ t.delta) :
    ∃ r, DeltaLerp.applyF (n + 2) m t v = some r
      ∧ between m.prev_value.x v.toModel.promote.as3.x r.1.prev_value.x
      ∧ between m.prev_value.y v.toModel.promote.as3.y r.1.prev_value.y
      ∧ between m.prev_value.z v.toModel.promote.as3.z r.1.prev_value.z := by
  obtain ⟨r, hr, h1, _, _⟩ := deltaLerp_apply m t v n
  have hb := deltaLerp_between m.speed (dlerpM m) t v.toModel hs hd
  rw [← h1] at hb
  exact ⟨r, hr, hb⟩

/-- … and within the snap distance (the constant read from the source) the output *is* the input -/
theorem deltaLerp_snaps_src (m : DeltaLerp) (t : Tick) (v : ActionValue) (n : Nat)
    (h : ((dlerpM m).sub v.toModel.promote.as3).normSq < Gen.dlerpSnapEps) :
    ∃ r, DeltaLerp.applyF (n + 2) m t v = some r ∧ r.2.toModel = v.toModel.promote
      ∧ dlerpM r.1 = v.toModel.promote.as3 := by
  obtain ⟨r, hr, h1, h2, _⟩ := deltaLerp_apply m t v n
  rw [deltaLerp_snaps m.speed (dlerpM m) t v.toModel h] at h1 h2
  exact ⟨r, hr, h2, h1⟩

/-! concrete runs of the translated code -/
example : Negate.applyF 2 ⟨true, false, false⟩ (.vBool true) = some (⟨true, false, false⟩, .vAxis1D (-1)) := by decide +kernel
example : (SwizzleAxis.applyF 2 .YXZ (.vAxis2D ⟨3, 5⟩)).map (·.2) = some (.vAxis2D ⟨5, 3⟩) := by decide +kernel
example : (⟨.Axial, 1/4, 1⟩ : DeadZone).dead_zone (1/8) = 0 ∧ (⟨.Axial, 1/4, 1⟩ : DeadZone).dead_zone (-2) = -1 := by decide +kernel

end BEI.Bridge.Source
