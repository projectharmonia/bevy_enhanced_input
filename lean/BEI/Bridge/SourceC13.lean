/-
  C13 for the translated source: `Chord<A>`, `BlockBy<A>` and `AccumulateBy<A>` as they read in `/repo/src` now
  (BEI/Gen/Code/Refs.lean), where `actions.action::<A>()` is `some d` for the referenced action's data `d` (the current frame's
  if it was bound earlier, the previous frame's otherwise — `Props.C13.visibility`) or `none` if the context does not bind it.
-/
import BEI.Bridge.Refs
namespace BEI.Bridge.Source
open BEI.Rs

/-- Chord yields exactly the referenced action's state (None when the action is absent) and is an implicit condition -/
theorem chord_src (c : Chord) (v : ActionValue) (d : BEI.ActionData) :
    (c.evaluate ⟨some d⟩ v).2 = d.state ∧ (c.evaluate ⟨none⟩ v).2 = .none ∧ c.kind = .Implicit := by
  simp [rs_refs]

/-- BlockBy blocks (returns None) exactly while the referenced action is Fired, never when it is absent; it is a blocker whose
    events-only flag is the configured one, and evaluating it does not change it -/
theorem blockBy_src (c : BlockBy) (v : ActionValue) (d : BEI.ActionData) :
    ((c.evaluate ⟨some d⟩ v).2 = .none ↔ d.state = .fired)
    ∧ ((c.evaluate ⟨some d⟩ v).2 = .fired ↔ d.state ≠ .fired)
    ∧ (c.evaluate ⟨none⟩ v).2 = .fired
    ∧ c.kind = .Blocker c.events_only
    ∧ (c.evaluate ⟨some d⟩ v).1 = c := by
  cases h : d.state <;> simp [rs_refs, h]

/-- AccumulateBy: while the referenced action is Fired the input is added to the stored sum, otherwise the sum restarts from the
    input; the output is the sum in the input's dimension; with the action absent the value passes through unchanged -/
theorem accumulateBy_src (m : AccumulateBy) (v : ActionValue) (d : BEI.ActionData) :
    (m.apply ⟨some d⟩ v).1.value = (if d.state = .fired then m.value + v.as_axis3d else v.as_axis3d)
    ∧ (m.apply ⟨some d⟩ v).2 = (ActionValue.vAxis3D (m.apply ⟨some d⟩ v).1.value).convert v.dim
    ∧ m.apply ⟨none⟩ v = (m, v) := by
  cases h : d.state <;> simp [rs_refs, h]

end BEI.Bridge.Source
