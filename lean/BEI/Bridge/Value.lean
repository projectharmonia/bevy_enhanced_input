/-
  Bridge: the Lean code generated from `/repo/src/action_value.rs` (BEI/Gen/Code/Value.lean) computes the model's
  functions (BEI/Model/Value.lean), so every theorem of Props/C20 (and every use of `Value.*` in C03 / C04) is a
  theorem about what the source says now.  The proofs unfold the whole generated unit (`rs_value`), case-split the value
  (and a Boolean payload) and normalise: they do not depend on how the source arranges its `match`es or helpers.
-/
import BEI.Gen.Code.Value
namespace BEI.Bridge
open BEI.Rs

theorem vec2_eq_zero (v : Vec2) : (v == ({ x := 0, y := 0 } : Vec2)) = (v.x == 0 && v.y == 0) := by
  cases v; simp only [BEq.beq, Vec2.mk.injEq, Bool.decide_and]

theorem vec3_eq_zero (v : Vec3) : (v == ({ x := 0, y := 0, z := 0 } : Vec3)) = (v.x == 0 && v.y == 0 && v.z == 0) := by
  cases v; simp only [BEq.beq, Vec3.mk.injEq, Bool.decide_and, Bool.and_assoc]

/- The unit's simp set `rs_value` also gets the model's value functions, the maps into the model and the prelude's constants:
   a bridge proof is then "split the value (and a Boolean payload), `simp [rs_value]`", whatever functions the translator emitted.
   (Listing these thirty-odd names in every `simp` call costs more to elaborate than the simplification itself.) -/
attribute [rs_value] ActionValue.toModel ActionValueDim.toModel Value.dim Value.zero Value.asBool Value.as1 Value.as2
  Value.as3 Value.convert Value.isActuated Vec2.ZERO Vec2.X Vec2.Y Vec2.ONE Vec3.ZERO Vec3.X Vec3.Y Vec3.Z
  Vec3.ONE Vec3.xy Vec2.extend Vec2.new Vec3.new Vec2.length_squared Vec3.toModel RInto.into bne
  vec2_eq_zero vec3_eq_zero Vec3.length_squared V3.normSq leQ

/-- unfold the generated unit and the model's value functions, then normalise -/
macro "value_bridge" : tactic => `(tactic| (simp [rs_value] <;> (try (first | rfl | congr))))

theorem value_dim (v : ActionValue) : v.dim.toModel = v.toModel.dim := by
  cases v <;> value_bridge

theorem value_zero (d : ActionValueDim) : (ActionValue.zero d).toModel = Value.zero d.toModel := by
  cases d <;> value_bridge

theorem value_as_bool (v : ActionValue) : v.as_bool = v.toModel.asBool := by
  cases v using ActionValue.casesSplitBool <;> value_bridge

theorem value_as_axis1d (v : ActionValue) : v.as_axis1d = v.toModel.as1 := by
  cases v using ActionValue.casesSplitBool <;> value_bridge

theorem value_as_axis2d (v : ActionValue) : (v.as_axis2d.x, v.as_axis2d.y) = v.toModel.as2 := by
  cases v using ActionValue.casesSplitBool <;> value_bridge

theorem value_as_axis3d (v : ActionValue) : v.as_axis3d.toModel = v.toModel.as3 := by
  cases v using ActionValue.casesSplitBool <;> value_bridge

theorem value_convert (v : ActionValue) (d : ActionValueDim) :
    (v.convert d).toModel = v.toModel.convert d.toModel := by
  cases d <;> cases v using ActionValue.casesSplitBool <;> value_bridge

/-- `ActionValue::Axis3D(p).convert(d)` is the model's `ofV3` -/
theorem value_ofV3 (p : Vec3) (d : ActionValueDim) :
    ((ActionValue.vAxis3D p).convert d).toModel = Value.ofV3 p.toModel d.toModel := value_convert _ d

theorem toModel_add (a b : Vec3) : (a + b).toModel = a.toModel + b.toModel := rfl

theorem value_is_actuated (v : ActionValue) (a : Rat) : v.is_actuated a = v.toModel.isActuated a := by
  cases v using ActionValue.casesSplitBool <;> value_bridge

end BEI.Bridge
