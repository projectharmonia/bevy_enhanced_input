/-
  Bridge: the merge step of `ActionBind::update` — the `match current_state.cmp(&tracker_state)` at the end of its loop body, as
  translated from `/repo/src/input_context/context_instance.rs` — equals the merge step of the model's `stepInput`
  (most significant state wins: a less significant input is ignored, an equal one is combined and appended to the consume
  buffer, a more significant one overwrites, becomes the tracked state and restarts the buffer).  `mergeStepM` is shown to be
  literally what `ActionBind.stepInput` does after the `None` skip (`stepInput_merge`), so C04's `MInv` loop invariant and C05's
  `update_consumes` are about this code.
-/
import BEI.Gen.Code.Merge
import BEI.Proofs.Loop
import BEI.Bridge.Tracker
namespace BEI.Bridge
open BEI.Rs

/-- the merge step of the model, isolated -/
def mergeStepM (ab : ActionBind) (acc : LoopAcc) (cur : Tracker) (st : AState) (inp : Input) : LoopAcc :=
  match AState.cmp st acc.trackerState with
  | .lt => acc
  | .eq => { acc with tracker := acc.tracker.combine cur ab.accum,
                      consumeBuffer := if ab.consume then acc.consumeBuffer ++ [inp] else acc.consumeBuffer }
  | .gt => { acc with tracker := acc.tracker.overwrite cur, trackerState := st,
                      consumeBuffer := if ab.consume then [inp] else acc.consumeBuffer }

/-- `stepInput` is: skip while still ignored and held; otherwise evaluate the input, skip `None`, else `mergeStepM` -/
theorem stepInput_merge (ab : ActionBind) (r : Reader) (av : ActionsView) (t : Tick) (acc : LoopAcc) (b : InputBind)
    (hgo : (b.ignored && r.activeUnconsumed b.input) = false) :
    let cur0 := Tracker.new (r.value b.input)
    let m := cur0.applyModifiers av t b.mods
    let c := m.1.applyConditions av t b.conds
    let acc1 : LoopAcc := { acc with log := acc.log ++ m.2.2 ++ c.2.2 }
    (ab.stepInput r av t acc b).2 = (if c.1.state == .none then acc1 else mergeStepM ab acc1 c.1 c.1.state b.input) := by
  intro cur0 m c acc1
  have he : evalInput r av t b = ({ b with mods := m.2.1, conds := c.2.1, ignored := false },
      some ⟨b.input, c.1, resultsOf c.2.2⟩, m.2.2 ++ c.2.2) := if_neg (by rw [hgo]; exact Bool.false_ne_true)
  -- `stepInput` is `evalInput` then `mergeStep`, which is the `None` skip then `mergeStepM`
  rw [ActionBind.stepInput_eq, he, ← List.append_assoc]
  rfl

theorem accumulated_eq (t o : TriggerTracker) (acc : Accumulation) : t.accumulated o acc = accumulatedM t o acc := rfl

/-- the translated merge step as one equation (the one place where the unit is unfolded) -/
theorem merge_step_eq (self : ActionBindM) (tracker : TriggerTracker) (ts : AState) (cur : TriggerTracker) (cs : AState)
    (b : BindingRef) :
    self.merge_step tracker ts cur cs b =
      match AState.cmp cs ts with
      | .lt => (self, tracker, ts)
      | .eq => ({ self with consume_buffer :=
                    if self.consume_input then self.consume_buffer ++ [b.input] else self.consume_buffer },
                tracker.combine cur self.accumulation, ts)
      | .gt => ({ self with consume_buffer := if self.consume_input then [b.input] else self.consume_buffer },
                tracker.overwrite cur, cs) := by
  obtain ⟨acc, cons, buf⟩ := self
  cases h : AState.cmp cs ts <;> cases cons <;> simp [rs_merge, h, List.push, List.clear]

theorem merge_step (self : ActionBindM) (tracker : TriggerTracker) (ts : AState) (cur : TriggerTracker) (cs : AState)
    (binding : BindingRef) (ab : ActionBind) (hacc : ab.accum = self.accumulation.toModel) (hcons : ab.consume = self.consume_input)
    (log : List Inv) :
    let r := self.merge_step tracker ts cur cs binding
    let m := mergeStepM ab { tracker := trackerM tracker, trackerState := ts, consumeBuffer := self.consume_buffer, log := log }
                (trackerM cur) cs binding.input
    trackerM r.2.1 = m.tracker ∧ r.2.2 = m.trackerState ∧ r.1.consume_buffer = m.consumeBuffer
      ∧ r.1.accumulation = self.accumulation ∧ r.1.consume_input = self.consume_input := by
  rw [merge_step_eq, mergeStepM, hacc, hcons]
  cases AState.cmp cs ts
  · exact ⟨rfl, rfl, rfl, rfl, rfl⟩
  · exact ⟨tracker_combine _ _ _, rfl, rfl, rfl, rfl⟩
  · exact ⟨tracker_overwrite _ _, rfl, rfl, rfl, rfl⟩

end BEI.Bridge
