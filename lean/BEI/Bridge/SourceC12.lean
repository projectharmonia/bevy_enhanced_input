/-
  C12 (per tracker) for the translated source: the loops `apply_conditions` / `apply_modifiers` of
  `/repo/src/input_context/context_instance/trigger_tracker.rs` invoke every object exactly once, in declaration order, whatever the
  other objects return (no early out).
-/
import BEI.Bridge.Loops
import BEI.Proofs.Law
namespace BEI.Bridge.Source
open BEI.Rs

/-- every condition is evaluated exactly once, in order, on the tracker's value — independently of what the other conditions
    return, of blockers and of the flags so far: the objects that come back are, position by position, each condition after its
    one `evaluate` call on that value; the value itself is untouched -/
theorem apply_conditions_each_once (av : ActionsView) (tk : Tick) : ∀ (cs : List Cond) (t : TriggerTracker),
    (t.apply_conditions av tk cs).2 = cs.map (fun c => (c.evaluate_obj av tk t.value).1)
    ∧ (t.apply_conditions av tk cs).1.value = t.value := by
  intro cs t
  -- the translated loop is the model's (Bridge/Loops), and the model's in closed form says both parts
  obtain ⟨h1, h2⟩ := tracker_apply_conditions av tk cs t
  rw [Tracker.applyConditions_eq] at h1 h2
  exact ⟨h2, ActionValue.toModel_injective ((congrArg Tracker.value h1).trans (Tracker.noteAll_value _ _))⟩

/-- every modifier is applied exactly once, in order, each to the output of the previous one -/
theorem apply_modifiers_each_once (av : ActionsView) (tk : Tick) (m : Mod) (ms : List Mod) (t : TriggerTracker) :
    t.apply_modifiers av tk (m :: ms) =
      (let r := ({ t with value := (m.apply_obj av tk t.value).2 } : TriggerTracker).apply_modifiers av tk ms
       (r.1, (m.apply_obj av tk t.value).1 :: r.2))
    ∧ t.apply_modifiers av tk [] = (t, []) :=
  ⟨apply_modifiers_cons av tk m ms t, apply_modifiers_nil av tk t⟩

end BEI.Bridge.Source
