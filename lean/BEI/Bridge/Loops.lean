/-
  Bridge: the loops `TriggerTracker::apply_modifiers` and `apply_conditions` as translated from the source (left folds over the
  trait objects) = the model's `Tracker.applyModifiers` / `applyConditions`, for **every list of arbitrary machines**: every
  object is invoked exactly once, in order, with no early out, on the value as it stands at its turn; the flags after the loop are
  the model's; the updated objects come back in the same order.  With `tracker_state`, the condition law of C03 therefore holds
  for the source's loop over any list of user-defined conditions, and the per-tracker part of C12 (one invocation each, in
  declaration order) for the source's loops.
-/
import BEI.Gen.Code.Loops
import BEI.Bridge.Tracker
namespace BEI.Bridge
open BEI.Rs
universe u v

/-- a fold whose step only appends to the second component can be started from the empty list -/
theorem foldl_append_acc {α : Type u} {β : Type v} (F : α × List β → β → α × List β)
    (hF : ∀ a done c, F (a, done) c = ((F (a, []) c).1, done ++ (F (a, []) c).2)) :
    ∀ (cs : List β) (a : α) (done : List β),
      cs.foldl F (a, done) = ((cs.foldl F (a, [])).1, done ++ (cs.foldl F (a, [])).2) := by
  intro cs
  induction cs with
  | nil => intro a done; rw [List.foldl_nil, List.foldl_nil, List.append_nil]
  | cons c cs ih =>
    intro a done
    rw [List.foldl_cons, List.foldl_cons, hF a done c, ih, ih (F (a, []) c).1 (F (a, []) c).2, List.append_assoc]

/-- … so when each step updates `a` by `f` and appends `g a c`, the fold over `c :: cs` is the fold over `cs` from `f a c` with
    `g a c` in front -/
theorem foldl_collect_cons {α : Type u} {β : Type v} (F : α × List β → β → α × List β) (f : α → β → α) (g : α → β → β)
    (hF : ∀ a done c, F (a, done) c = (f a c, done ++ [g a c])) (c : β) (cs : List β) (a : α) :
    (c :: cs).foldl F (a, []) = ((cs.foldl F (f a c, [])).1, g a c :: (cs.foldl F (f a c, [])).2) := by
  rw [List.foldl_cons, hF, foldl_append_acc F (by simp [hF])]
  rfl

/-- the state and the kind a trait object reports are the model's -/
theorem evaluate_obj_snd (c : Cond) (av : ActionsView) (tk : Tick) (v : ActionValue) :
    (c.evaluate_obj av tk v).2 = (c.eval av tk v.toModel).2.1 := rfl

theorem kind_obj_evaluate_obj (c : Cond) (av : ActionsView) (tk : Tick) (v : ActionValue) :
    (c.evaluate_obj av tk v).1.kind_obj.toModel = (c.eval av tk v.toModel).2.2 :=
  ConditionKind.toModel_ofModel _

/-- one iteration of the translated `apply_conditions` loop: evaluate the object (once), then the translated flag update
    (`note`) with the kind the *updated* object reports; the object is appended to the objects already done -/
theorem conditions_step (av : ActionsView) (tk : Tick) (t : TriggerTracker) (done : List Cond) (c : Cond) :
    TriggerTracker.apply_conditions_step av tk (t, done) c =
      (t.note (c.evaluate_obj av tk t.value).2 (c.evaluate_obj av tk t.value).1.kind_obj,
       done ++ [(c.evaluate_obj av tk t.value).1]) := by
  simp only [rs_loops]
  cases (c.evaluate_obj av tk t.value).1.kind_obj with
  | Explicit => simp [rs_tracker]
  | Implicit => simp [rs_tracker]
  | Blocker eo => cases eo <;> simp [rs_tracker]

/-- the translated `apply_conditions` loop, one condition at a time -/
theorem apply_conditions_nil (av : ActionsView) (tk : Tick) (t : TriggerTracker) : t.apply_conditions av tk [] = (t, []) := by
  simp only [TriggerTracker.apply_conditions, List.foldl_nil]

theorem apply_conditions_cons (av : ActionsView) (tk : Tick) (c : Cond) (cs : List Cond) (t : TriggerTracker) :
    t.apply_conditions av tk (c :: cs) =
      (let e := c.evaluate_obj av tk t.value
       let r := (t.note e.2 e.1.kind_obj).apply_conditions av tk cs
       (r.1, e.1 :: r.2)) := by
  simp only [TriggerTracker.apply_conditions]
  exact foldl_collect_cons _ _ _ (conditions_step av tk) c cs t

theorem tracker_apply_conditions (av : ActionsView) (tk : Tick) : ∀ (cs : List Cond) (t : TriggerTracker),
    trackerM (t.apply_conditions av tk cs).1 = ((trackerM t).applyConditions av tk cs).1
    ∧ (t.apply_conditions av tk cs).2 = ((trackerM t).applyConditions av tk cs).2.1 := by
  intro cs
  induction cs with
  | nil => intro t; rw [apply_conditions_nil]; exact ⟨rfl, rfl⟩
  | cons c cs ih =>
    intro t
    have ih := ih (t.note (c.evaluate_obj av tk t.value).2 (c.evaluate_obj av tk t.value).1.kind_obj)
    rw [tracker_note, kind_obj_evaluate_obj, evaluate_obj_snd] at ih
    rw [apply_conditions_cons]
    exact ⟨ih.1, congrArg (_ :: ·) ih.2⟩

/-- one iteration of the translated `apply_modifiers` loop: apply the object (once) to the current value and store the result -/
theorem modifiers_step (av : ActionsView) (tk : Tick) (t : TriggerTracker) (done : List Mod) (m : Mod) :
    TriggerTracker.apply_modifiers_step av tk (t, done) m =
      ({ t with value := (m.apply_obj av tk t.value).2 }, done ++ [(m.apply_obj av tk t.value).1]) := by
  simp [rs_loops]

/-- storing what a trait object returns stores the model's result -/
theorem apply_obj_value (m : Mod) (av : ActionsView) (tk : Tick) (t : TriggerTracker) :
    trackerM { t with value := (m.apply_obj av tk t.value).2 }
      = { trackerM t with value := (m.apply av tk (trackerM t).value).2 } := by
  simp [trackerM, Mod.apply_obj]

/-- the translated `apply_modifiers` loop, one modifier at a time -/
theorem apply_modifiers_nil (av : ActionsView) (tk : Tick) (t : TriggerTracker) : t.apply_modifiers av tk [] = (t, []) := by
  simp only [TriggerTracker.apply_modifiers, List.foldl_nil]

theorem apply_modifiers_cons (av : ActionsView) (tk : Tick) (m : Mod) (ms : List Mod) (t : TriggerTracker) :
    t.apply_modifiers av tk (m :: ms) =
      (let r := ({ t with value := (m.apply_obj av tk t.value).2 } : TriggerTracker).apply_modifiers av tk ms
       (r.1, (m.apply_obj av tk t.value).1 :: r.2)) := by
  simp only [TriggerTracker.apply_modifiers]
  exact foldl_collect_cons _ _ _ (modifiers_step av tk) m ms t

theorem tracker_apply_modifiers (av : ActionsView) (tk : Tick) : ∀ (ms : List Mod) (t : TriggerTracker),
    trackerM (t.apply_modifiers av tk ms).1 = ((trackerM t).applyModifiers av tk ms).1
    ∧ (t.apply_modifiers av tk ms).2 = ((trackerM t).applyModifiers av tk ms).2.1 := by
  intro ms
  induction ms with
  | nil => intro t; rw [apply_modifiers_nil]; exact ⟨rfl, rfl⟩
  | cons m ms ih =>
    intro t
    have ih := ih { t with value := (m.apply_obj av tk t.value).2 }
    rw [apply_obj_value] at ih
    rw [apply_modifiers_cons]
    exact ⟨ih.1, congrArg (_ :: ·) ih.2⟩

end BEI.Bridge
