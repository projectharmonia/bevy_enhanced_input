/-
  C04 / C05 for the translated source: the merge step at the end of the loop body of `ActionBind::update` as it reads in
  `/repo/src` now (BEI/Gen/Code/Merge.lean).  `current_state` is never `None` here (the loop `continue`s before).
-/
import BEI.Bridge.Merge
namespace BEI.Bridge.Source
open BEI.Rs

/-- most significant inputs win: a less significant input changes nothing; an equally significant one is combined into the
    tracker; a more significant one replaces it and becomes the tracked state.  The consume buffer (what the action will hide if it
    ends the frame active) is untouched for a non-consuming action; for a consuming one it gets the input appended on an equal
    state and is restarted with just that input on a more significant one — so it always holds exactly the inputs of the most
    significant state seen so far. -/
theorem merge_step_src (self : ActionBindM) (tracker : TriggerTracker) (ts : AState) (cur : TriggerTracker) (cs : AState)
    (b : BindingRef) :
    let r := self.merge_step tracker ts cur cs b
    (AState.cmp cs ts = .lt → r = (self, (tracker, ts)))
    ∧ (AState.cmp cs ts = .eq →
        r.2 = (tracker.combine cur self.accumulation, ts)
        ∧ r.1.consume_buffer = (if self.consume_input then self.consume_buffer ++ [b.input] else self.consume_buffer))
    ∧ (AState.cmp cs ts = .gt →
        r.2 = (tracker.overwrite cur, cs)
        ∧ r.1.consume_buffer = (if self.consume_input then [b.input] else self.consume_buffer))
    ∧ r.1.accumulation = self.accumulation ∧ r.1.consume_input = self.consume_input := by
  rw [merge_step_eq]
  cases AState.cmp cs ts
  · exact ⟨fun _ => rfl, nofun, nofun, rfl, rfl⟩
  · exact ⟨nofun, fun _ => ⟨rfl, rfl⟩, nofun, rfl, rfl⟩
  · exact ⟨nofun, nofun, fun _ => ⟨rfl, rfl⟩, rfl, rfl⟩

end BEI.Bridge.Source
