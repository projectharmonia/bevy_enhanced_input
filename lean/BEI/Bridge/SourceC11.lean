/-
  C11 for the translated source: for **every actuation history** the `evaluate` bodies of `Hold`, `HoldAndRelease`, `Tap`,
  `JustPress` and `Release` as they read in `/repo/src` now (BEI/Gen/Code/Conditions.lean) return exactly the documented
  pattern.  Obtained from the history theorems of Props/C11 by a simulation over histories whose step is the bridge theorem.
-/
import BEI.Bridge.Conditions
import BEI.Props.C11
namespace BEI.Bridge.Source
open BEI.Rs BEI.Props.C11 BEI.Cond

/-- a history of the translated code: newest frame first, like `C11.Hist` -/
abbrev SrcHist := List (ActionValue × Tick)
def toHist (h : SrcHist) : Hist := h.map (fun f => (f.1.toModel, f.2))

/-- run a translated `evaluate` over a history -/
def runSrc {σ : Type} (step : σ → Tick → ActionValue → σ × AState) (s0 : σ) : SrcHist → σ × AState
  | [] => (s0, .none)
  | f :: rest => step (runSrc step s0 rest).1 f.2 f.1

/-- simulation over histories: if one translated step equals one model step under an invariant the step preserves, whole runs agree -/
theorem run_sim {σ τ : Type} (stepS : σ → Tick → ActionValue → σ × AState) (stepM : τ → Tick → Value → τ × AState)
    (abs : σ → τ) (inv : σ → Prop)
    (hstep : ∀ s t v, inv s → (abs (stepS s t v).1, (stepS s t v).2) = stepM (abs s) t v.toModel ∧ inv (stepS s t v).1)
    (s0 : σ) (h0 : inv s0) (h : SrcHist) :
    abs (runSrc stepS s0 h).1 = (run stepM (abs s0) (toHist h)).1
    ∧ (runSrc stepS s0 h).2 = (run stepM (abs s0) (toHist h)).2 ∧ inv (runSrc stepS s0 h).1 := by
  induction h with
  | nil => exact ⟨rfl, rfl, h0⟩
  | cons f rest ih =>
    obtain ⟨hs, hi⟩ := hstep (runSrc stepS s0 rest).1 f.2 f.1 ih.2.2
    rw [ih.1] at hs
    exact ⟨congrArg Prod.fst hs, congrArg Prod.snd hs, hi⟩

/-- `Hold` as constructed by `Hold::new(T).one_shot(os).with_actuation(act).relative_speed(rel)`: timer at zero, not fired -/
def holdNew (T : Rat) (os : Bool) (act : Rat) (rel : Bool) : Hold :=
  { hold_time := T, one_shot := os, actuation := act, timer := { relative_speed := rel, duration := 0 }, fired := false }

/-- **Hold, every history**: fires once the input has been actuated continuously for the hold time (once only if one-shot),
    is Ongoing while held below it, None otherwise. -/
theorem hold_history (T : Rat) (os : Bool) (act : Rat) (rel : Bool) (hT : 0 < T) (f : ActionValue × Tick) (rest : SrcHist) :
    (runSrc Hold.evaluate (holdNew T os act rel) (f :: rest)).2 =
      (if leQ T (held act rel (toHist (f :: rest))) then (if !os || !leQ T (held act rel (toHist rest)) then .fired else .none)
       else if f.1.is_actuated act then .ongoing else .none) := by
  have sim := run_sim Hold.evaluate (holdStep T os act) holdM
    (fun h => h.hold_time = T ∧ h.one_shot = os ∧ h.actuation = act)
    (by rintro s t v ⟨rfl, rfl, rfl⟩; exact hold_evaluate s t v) (holdNew T os act rel) ⟨rfl, rfl, rfl⟩ (f :: rest)
  rw [sim.2.1, value_is_actuated]
  exact hold_spec T os act rel hT (f.1.toModel, f.2) (toHist rest)

def holdRelNew (T act : Rat) (rel : Bool) : HoldAndRelease :=
  { hold_time := T, actuation := act, timer := { relative_speed := rel, duration := 0 }, actuated := false }

/-- **HoldAndRelease, every history**: Ongoing while actuated; on a release frame Fired iff the preceding continuous actuation
    (including this frame's time) lasted at least the hold time. -/
theorem holdAndRelease_history (T act : Rat) (rel : Bool) (f : ActionValue × Tick) (rest : SrcHist) :
    (runSrc HoldAndRelease.evaluate (holdRelNew T act rel) (f :: rest)).2 =
      (if f.1.is_actuated act then .ongoing
       else if actuatedNow act (toHist rest) && leQ T (held act rel (toHist rest) + inc rel f.2) then .fired else .none) := by
  have sim := run_sim HoldAndRelease.evaluate (holdRelStep T act) holdRelM (fun h => h.hold_time = T ∧ h.actuation = act)
    (by rintro s t v ⟨rfl, rfl⟩; exact holdAndRelease_evaluate s t v) (holdRelNew T act rel) ⟨rfl, rfl⟩ (f :: rest)
  rw [sim.2.1, value_is_actuated]
  exact holdRel_spec T act rel (f.1.toModel, f.2) (toHist rest)

def tapNew (T act : Rat) (rel : Bool) : Tap :=
  { release_time := T, actuation := act, timer := { relative_speed := rel, duration := 0 }, actuated := false }

/-- **Tap, every history**: Fired on a release frame iff the preceding continuous actuation lasted at most the release time. -/
theorem tap_history_src (T act : Rat) (rel : Bool) (f : ActionValue × Tick) (rest : SrcHist) :
    (runSrc Tap.evaluate (tapNew T act rel) (f :: rest)).2 = .fired ↔
      (actuatedNow act (toHist rest) = true ∧ f.1.is_actuated act = false ∧ held act rel (toHist rest) ≤ T) := by
  have sim := run_sim Tap.evaluate (tapStep T act) tapM (fun h => h.release_time = T ∧ h.actuation = act)
    (by rintro s t v ⟨rfl, rfl⟩; exact tap_evaluate s t v) (tapNew T act rel) ⟨rfl, rfl⟩ (f :: rest)
  rw [sim.2.1, value_is_actuated]
  exact tap_history T act rel (f.1.toModel, f.2) (toHist rest)

/-! concrete runs of the translated code (the translation computes; the hypotheses above are satisfiable):
    two frames of 1/4 s with the key down reach a hold time of 1/2 s — Fired; one frame — Ongoing; released — None;
    a quick press and release is a Tap -/
example : (runSrc Hold.evaluate (holdNew (1/2) false (1/2) true) [(.vBool true, ⟨1/4, 1⟩), (.vBool true, ⟨1/4, 1⟩)]).2 = .fired := by
  decide +kernel
example : (runSrc Hold.evaluate (holdNew (1/2) false (1/2) true) [(.vBool true, ⟨1/4, 1⟩)]).2 = .ongoing := by decide +kernel
example : (runSrc Hold.evaluate (holdNew (1/2) false (1/2) true) [(.vBool false, ⟨1/4, 1⟩), (.vBool true, ⟨1/4, 1⟩)]).2 = .none := by
  decide +kernel
example : (runSrc Tap.evaluate (tapNew (1/2) (1/2) true) [(.vBool false, ⟨1/4, 1⟩), (.vBool true, ⟨1/4, 1⟩)]).2 = .fired := by
  decide +kernel

end BEI.Bridge.Source
