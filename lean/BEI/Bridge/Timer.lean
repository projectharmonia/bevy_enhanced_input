/-
  Bridge: `ConditionTimer` as translated from the source = the model's `CTimer`.
-/
import BEI.Gen.Code.Timer
namespace BEI.Bridge
open BEI.Rs

/-- the model's timer of a translated one -/
def timerM (t : ConditionTimer) : CTimer := { relative := t.relative_speed, duration := t.duration }

theorem timer_update (t : ConditionTimer) (k : Tick) : timerM (t.update k) = (timerM t).update k := by
  obtain ⟨rel, dur⟩ := t
  cases rel <;> simp [rs_timer, CTimer.update, timerM, Tick.relative_speed, Tick.delta_secs] <;>
    by_cases h : k.speed = 0 <;> simp_all

theorem timer_reset (t : ConditionTimer) : timerM t.reset = (timerM t).reset := by
  simp [rs_timer, CTimer.reset, timerM]

theorem timer_duration (t : ConditionTimer) : t.duration = (timerM t).duration := rfl

end BEI.Bridge
