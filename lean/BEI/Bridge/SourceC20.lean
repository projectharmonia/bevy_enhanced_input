/-
  C20 for the code translated from the source (`BEI/Gen/Code/*.lean`): the property's theorems restated about the translated
  functions themselves, obtained from the model-level theorems through the bridge theorems.
-/
import BEI.Bridge.Value
import BEI.Props.C20
namespace BEI.Bridge.Source
open BEI.Rs

/-! ### C20 — `ActionValue` conversions of `src/action_value.rs` -/

theorem toModel_injective {a b : ActionValue} (h : a.toModel = b.toModel) : a = b := ActionValue.toModel_injective h

/-- converting yields the requested dimension -/
theorem convert_dim (v : ActionValue) (d : ActionValueDim) : (v.convert d).dim = d := by
  apply ActionValueDim.toModel_injective
  rw [value_dim, value_convert]
  exact Props.C20.convert_dim _ _

/-- converting to the own dimension is the identity -/
theorem convert_self (v : ActionValue) : v.convert v.dim = v := by
  apply toModel_injective
  rw [value_convert, value_dim]
  exact Props.C20.convert_self _

/-- widening then narrowing back returns the original -/
theorem widen_narrow (v : ActionValue) (d : ActionValueDim) (h : Props.C20.widens v.toModel.dim d.toModel) :
    (v.convert d).convert v.dim = v := by
  apply toModel_injective
  rw [value_convert, value_convert, value_dim]
  exact Props.C20.widen_narrow _ _ h

/-- truthiness is preserved by widening -/
theorem widen_truthy (v : ActionValue) (d : ActionValueDim) (h : Props.C20.widens v.toModel.dim d.toModel) :
    (v.convert d).as_bool = v.as_bool := by
  rw [value_as_bool, value_as_bool, value_convert]
  exact Props.C20.widen_truthy _ _ h

/-- the zero value of a dimension has that dimension and is falsy -/
theorem zero_dim_falsy (d : ActionValueDim) : (ActionValue.zero d).dim = d ∧ (ActionValue.zero d).as_bool = false := by
  constructor
  · apply ActionValueDim.toModel_injective
    rw [value_dim, value_zero]
    exact Value.zero_dim _
  · rw [value_as_bool, value_zero]
    exact Props.C20.zero_falsy _

end BEI.Bridge.Source
