/-
  C03 for the code translated from the source (`BEI/Gen/Code/*.lean`): the property's theorems restated about the translated
  functions themselves, obtained from the model-level theorems through the bridge theorems.
-/
import BEI.Bridge.Loops
import BEI.Props.C03
namespace BEI.Bridge.Source
open BEI.Rs

/-! ### C03 — the condition law for `TriggerTracker` of `src/input_context/context_instance/trigger_tracker.rs` -/

/-- folding the flag update of `apply_conditions` over any list of condition results -/
def noteAll (t : TriggerTracker) (rs : List (ConditionKind × AState)) : TriggerTracker :=
  rs.foldl (fun t r => t.note r.2 r.1) t

/-- the translated flag updates are the model's, result by result -/
theorem trackerM_noteAll (rs : List (ConditionKind × AState)) : ∀ t : TriggerTracker,
    trackerM (noteAll t rs) = (rs.map fun r => (r.1.toModel, r.2)).foldl (fun t r => t.note r.1 r.2) (trackerM t) := by
  induction rs with
  | nil => intro t; rfl
  | cons r rs ih => intro t; rw [List.map_cons, List.foldl_cons, ← tracker_note]; exact ih _

/-- **the law of C03 for the translated code**: after the flag updates of any list of condition results (any length, order and
    mix of kinds), `TriggerTracker::state` is the explicit / implicit / blocker law of those results and the value's truthiness,
    and `events_blocked` is set iff an events-only blocker failed. -/
theorem tracker_law (v : ActionValue) (rs : List (ConditionKind × AState)) :
    (noteAll (TriggerTracker.new v) rs).state = lawState (rs.map (fun r => (r.1.toModel, r.2))) v.as_bool
    ∧ (noteAll (TriggerTracker.new v) rs).events_blocked = lawEventsBlocked (rs.map (fun r => (r.1.toModel, r.2))) := by
  have hM := trackerM_noteAll rs (TriggerTracker.new v)
  rw [tracker_new] at hM
  have h : TInv (trackerM (noteAll (TriggerTracker.new v) rs)) (rs.map (fun r => (r.1.toModel, r.2))) := by
    rw [hM]; exact (TInv.new _).noteAll _
  have hv : (trackerM (noteAll (TriggerTracker.new v) rs)).value = v.toModel := by rw [hM, Tracker.noteAll_value]; rfl
  exact ⟨by rw [tracker_state, TInv.state_eq h, hv, value_as_bool], by rw [tracker_events_blocked, h.eb]; rfl⟩

/-- **the law of C03 for the translated loop**: running the source's `apply_conditions` loop from a fresh tracker over *any* list of
    conditions — built-in or user-defined (`Cond` is an arbitrary state machine standing for `Box<dyn InputCondition>`), of any
    length, order and mix of kinds — every condition is evaluated (the updated objects come back, one per condition, in order) and
    `state()` / `events_blocked()` are the explicit / implicit / blocker law of their results and the value's truthiness. -/
theorem apply_conditions_law (av : ActionsView) (tk : Tick) (v : ActionValue) (cs : List Cond) :
    ((TriggerTracker.new v).apply_conditions av tk cs).1.state = lawState (runConds av tk cs v.toModel) v.as_bool
    ∧ ((TriggerTracker.new v).apply_conditions av tk cs).1.events_blocked = lawEventsBlocked (runConds av tk cs v.toModel)
    ∧ ((TriggerTracker.new v).apply_conditions av tk cs).2.length = cs.length := by
  obtain ⟨h1, h2⟩ := tracker_apply_conditions av tk cs (TriggerTracker.new v)
  rw [tracker_new] at h1 h2
  obtain ⟨hs, he, _⟩ := Props.C03.tracker_fold_law av tk v.toModel cs
  refine ⟨by rw [tracker_state, h1, hs, value_as_bool], by rw [tracker_events_blocked, h1, he], ?_⟩
  rw [h2, Tracker.applyConditions_eq, List.length_map]

/-! concrete runs of the translated code: a failing blocker followed by a passing one still blocks (the defect D1 of the pinned
    code); an explicit condition that fired fires the action although an earlier explicit one did not -/
example : (noteAll (TriggerTracker.new (.vBool true)) [(.Blocker false, .none), (.Blocker false, .fired)]).state = .none := by
  decide
example : (noteAll (TriggerTracker.new (.vBool true)) [(.Explicit, .none), (.Explicit, .fired)]).state = .fired := by decide
example : (noteAll (TriggerTracker.new (.vBool true)) [(.Explicit, .fired), (.Implicit, .ongoing)]).state = .ongoing := by decide

end BEI.Bridge.Source
