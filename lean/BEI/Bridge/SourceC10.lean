/-
  C10 (and the stored events of C01) for the code translated from the source (`BEI/Gen/Code/*.lean`): the property's theorems restated about the translated
  functions themselves, obtained from the model-level theorems through the bridge theorems.
-/
import BEI.Bridge.ActionData
import BEI.Props.C10
namespace BEI.Bridge.Source
open BEI.Rs

/-! ### C10 — `ActionData::update` of `src/input_context/context_instance.rs` -/

/-- on the frame an action leaves None (or rests in None) both durations are zero -/
theorem update_from_none (a : Rs.ActionData) (t : Tick) (st : AState) (v : ActionValue) (h : a.state = .none) :
    (a.update t st v).elapsed_secs = 0 ∧ (a.update t st v).fired_secs = 0 := by
  have := Props.C10.from_none (actionDataM a) t st v.toModel h
  rwa [← actionData_update] at this

/-- on every later frame elapsed grows by exactly the frame's virtual delta; fired grows by it iff the action was Fired -/
theorem update_later (a : Rs.ActionData) (t : Tick) (st : AState) (v : ActionValue) (h : a.state ≠ .none) :
    (a.update t st v).elapsed_secs = a.elapsed_secs + t.delta
    ∧ (a.update t st v).fired_secs = (if a.state = .fired then a.fired_secs + t.delta else 0) := by
  have := Props.C10.later_frames (actionDataM a) t st v.toModel h
  rwa [← actionData_update] at this

/-- the stored events are the transition table's entry for (previous state, new state), the state and value are the new ones -/
theorem update_events (a : Rs.ActionData) (t : Tick) (st : AState) (v : ActionValue) :
    (a.update t st v).events.toList = eventsOf a.state st ∧ (a.update t st v).state = st ∧ (a.update t st v).value = v := by
  have hb := actionData_update a t st v
  exact ⟨congrArg (·.events) hb, congrArg (·.state) hb, ActionValue.toModel_injective (congrArg (·.value) hb)⟩

end BEI.Bridge.Source
