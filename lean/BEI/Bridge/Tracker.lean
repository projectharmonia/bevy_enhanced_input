/-
  Bridge: `TriggerTracker` as translated from `/repo/src/input_context/context_instance/trigger_tracker.rs` = the model's
  `Tracker` (`BEI/Model/Tracker.lean`): `new`, `state`, the flag update of `apply_conditions` (`note`), `overwrite`, and
  `combine` (flags and conversion; the accumulated vector — a `for` loop over `iter_mut().zip(..)` — is a parameter, set here
  to the model's merged vector).  Hence the condition law (C03) and the merge theorems (C04) are about the source's bodies.
-/
import BEI.Gen.Code.Tracker
import BEI.Bridge.Value
namespace BEI.Bridge
open BEI.Rs

/-- the model's tracker of a translated one -/
def trackerM (t : TriggerTracker) : Tracker :=
  { value := t.value.toModel, foundExplicit := t.found_explicit, anyExplicitFired := t.any_explicit_fired,
    foundActive := t.found_active, foundImplicit := t.found_implicit, allImplicitsFired := t.all_implicits_fired,
    blocked := t.blocked, eventsBlocked := t.events_blocked }

theorem tracker_new (v : ActionValue) : trackerM (TriggerTracker.new v) = Tracker.new v.toModel := by
  simp [rs_tracker, trackerM, Tracker.new]

theorem tracker_state (t : TriggerTracker) : t.state = (trackerM t).state := by
  obtain ⟨v, fe, aef, fa, fi, aif, bl, eb⟩ := t
  unfold Tracker.state trackerM
  simp only [rs_tracker, value_as_bool]
  all_goals (cases bl <;> cases fe <;> cases fi <;> cases aef <;> cases aif <;> cases fa <;> (try simp) <;>
    (try (cases v.toModel.asBool <;> simp)))

theorem tracker_note (t : TriggerTracker) (st : AState) (k : ConditionKind) :
    trackerM (t.note st k) = (trackerM t).note k.toModel st := by
  unfold Tracker.note trackerM
  -- a source that tests the state (`if fired { .. }`) instead of storing the test leaves goals that the state's value decides
  cases k with
  | Explicit => simp [rs_tracker, ConditionKind.toModel] <;> cases st <;> simp_all
  | Implicit => simp [rs_tracker, ConditionKind.toModel] <;> cases st <;> simp_all
  | Blocker eo => cases eo <;> simp [rs_tracker, ConditionKind.toModel] <;> cases st <;> simp_all

theorem tracker_events_blocked (t : TriggerTracker) : t.events_blocked = (trackerM t).eventsBlocked := rfl
theorem tracker_value (t : TriggerTracker) : t.value.toModel = (trackerM t).value := rfl

theorem tracker_overwrite (t o : TriggerTracker) :
    trackerM (t.overwrite o) = (trackerM t).overwrite (trackerM o) := by
  simp [rs_tracker, Tracker.overwrite, trackerM, value_convert, value_dim]

/-- the vector `combine` accumulates, as the model computes it -/
def accumulatedM (t o : TriggerTracker) (acc : Accumulation) : Vec3 :=
  let a := t.value.as_axis3d
  let b := o.value.as_axis3d
  match acc with
  | .MaxAbs => ⟨Tracker.maxAbs1 a.x b.x, Tracker.maxAbs1 a.y b.y, Tracker.maxAbs1 a.z b.z⟩
  | .Cumulative => a + b

theorem tracker_combine (t o : TriggerTracker) (acc : Accumulation) :
    trackerM (t.combine_with o (accumulatedM t o acc)) = (trackerM t).combine (trackerM o) acc.toModel := by
  have ht := value_as_axis3d t.value
  have ho := value_as_axis3d o.value
  have hx : ∀ (p : Vec3), (ActionValue.vAxis3D p).toModel = Value.a3 p.x p.y p.z := fun _ => rfl
  cases acc <;>
    simp only [rs_tracker, Tracker.combine, trackerM, accumulatedM, value_convert, value_dim, Value.ofV3,
      Accumulation.toModel, ← ht, ← ho, hx, Vec3.toModel, Vec3.add_x, Vec3.add_y, Vec3.add_z] <;> rfl

end BEI.Bridge
