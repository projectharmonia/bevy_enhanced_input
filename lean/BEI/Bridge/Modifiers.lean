/-
  Bridge: `apply` of the built-in modifiers as translated from `/repo/src/input_context/input_modifier/*.rs`
  = the model's value functions (`BEI/Model/Modifiers.lean`): `Negate`, `DeadZone` (axial and radial, with the prelude's
  `length` / `normalize_or_zero`), `DeltaLerp` (snap test with the constant read from the source, clamped factor, stored
  previous output), `SwizzleAxis`, `Scale`, `DeltaScale`.  The three modifiers that turn `Bool` into `Axis1D` by calling
  themselves are translated with fuel; the theorems show that fuel 2 suffices for every input (the recursion of the source
  terminates after one step).  `ExponentialCurve` (`powf`) is not translated.
-/
import BEI.Gen.Code.Modifiers
import BEI.Bridge.Value
namespace BEI.Bridge
open BEI.Rs

/-- the model's variant of a translated `SwizzleAxis` -/
def swzM : SwizzleAxis → Mod.Swz
  | .YXZ => .yxz | .ZYX => .zyx | .XZY => .xzy | .YZX => .yzx | .ZXY => .zxy

/- As in `Bridge/Value.lean`: the unit's simp set also unfolds the model's side and the prelude, so that a bridge proof is
   "split the value, its Boolean payload and the flags, then `mod_bridge`". -/
attribute [rs_modifiers] RInto.into ActionValue.toModel ActionValue.ofModel boolToRat Tick.delta_secs Vec3.xy Vec2.Y Vec3.Z
  Vec2.yx Vec3.yxz Vec2.new Vec3.new Vec2.length_squared Vec3.zyx Vec3.xzy Vec3.yzx Vec3.zxy Rat.fabs Rat.fmax Rat.fmin
  Rat.fsignum Mod.negateV Mod.scaleV Mod.deltaScaleV Mod.swizzleV Mod.swizzleV.swizzle1 swzM

macro "mod_bridge" : tactic => `(tactic| (simp [rs_modifiers] <;> (try (first | rfl | congr))))

theorem negate_apply (m : Negate) (v : ActionValue) (n : Nat) :
    Negate.applyF (n + 2) m v = some (m, ActionValue.ofModel (Mod.negateV m.x m.y m.z v.toModel)) := by
  obtain ⟨mx, my, mz⟩ := m
  cases v with
  | vBool b => cases b <;> cases mx <;> mod_bridge
  | vAxis1D x => cases mx <;> mod_bridge
  | vAxis2D p => cases mx <;> cases my <;> mod_bridge
  | vAxis3D p => cases mx <;> cases my <;> cases mz <;> mod_bridge

theorem swizzle_apply (m : SwizzleAxis) (v : ActionValue) (n : Nat) :
    SwizzleAxis.applyF (n + 2) m v = some (m, ActionValue.ofModel (Mod.swizzleV (swzM m) v.toModel)) := by
  cases v using ActionValue.casesSplitBool <;> cases m <;> mod_bridge

theorem deadZone_dead_zone (m : DeadZone) (x : Rat) :
    m.dead_zone x = deadZone1 m.lower_threshold m.upper_threshold x := by
  simp [rs_modifiers, deadZone1, Rat.fabs, Rat.fmax, Rat.fmin, Rat.fsignum]

theorem deadZone_apply_axial (m : DeadZone) (v : ActionValue) (h : m.kind = .Axial) :
    (m.apply v).2.toModel = Mod.deadZoneAxialV m.lower_threshold m.upper_threshold v.toModel ∧ (m.apply v).1 = m := by
  have hd := deadZone_dead_zone m
  cases v using ActionValue.casesSplitBool <;>
    simp [DeadZone.apply, h, hd, RInto.into, ActionValue.toModel, Mod.deadZoneAxialV, boolToRat]

theorem deadZone_apply_radial (m : DeadZone) (v : ActionValue) (h : m.kind = .Radial) :
    (m.apply v).2.toModel = Mod.deadZoneRadialV V3.len m.lower_threshold m.upper_threshold v.toModel ∧ (m.apply v).1 = m := by
  have hd := deadZone_dead_zone m
  cases v using ActionValue.casesSplitBool with
  | vAxis2D p =>
    simp only [DeadZone.apply, h, hd, RInto.into, ActionValue.toModel, Mod.deadZoneRadialV, deadZoneRadial,
      Vec2.normalize_or_zero, Vec2.length]
    split <;> simp_all [Vec2.ZERO, V3.zero, V3.scale]
  | vAxis3D p =>
    simp only [DeadZone.apply, h, hd, RInto.into, ActionValue.toModel, Mod.deadZoneRadialV, deadZoneRadial,
      Vec3.normalize_or_zero, Vec3.length]
    split <;> simp_all [Vec3.ZERO, V3.zero, V3.scale]
  | _ => simp [DeadZone.apply, hd, RInto.into, ActionValue.toModel, Mod.deadZoneRadialV, boolToRat]

/-- the model's memory of a translated `DeltaLerp` -/
def dlerpM (m : DeltaLerp) : V3 := m.prev_value.toModel

theorem toModel_lerp (a b : Vec3) (s : Rat) : (a.lerp b s).toModel = Mod.lerp3 a.toModel b.toModel s := by
  simp [Vec3.lerp, Mod.lerp3, Vec3.toModel, V3.scale]
  rfl

theorem deltaLerp_apply (m : DeltaLerp) (t : Tick) (v : ActionValue) (n : Nat) :
    ∃ r, DeltaLerp.applyF (n + 2) m t v = some r
      ∧ dlerpM r.1 = (Mod.deltaLerpStep m.speed (dlerpM m) t v.toModel).1
      ∧ r.2.toModel = (Mod.deltaLerpStep m.speed (dlerpM m) t v.toModel).2
      ∧ r.1.speed = m.speed := by
  -- a value that is not a `Bool` is handled with one unit of fuel; a `Bool` re-enters once as its 0/1 axis value
  have key : ∀ (w : ActionValue) (k : Nat), w.toModel.promote = w.toModel →
      ∃ r, DeltaLerp.applyF (k + 1) m t w = some r
        ∧ dlerpM r.1 = (Mod.deltaLerpStep m.speed (dlerpM m) t w.toModel).1
        ∧ r.2.toModel = (Mod.deltaLerpStep m.speed (dlerpM m) t w.toModel).2
        ∧ r.1.speed = m.speed := by
    intro w k hp
    have h3 := value_as_axis3d w
    have hrun : DeltaLerp.applyF (k + 1) m t w =
        (if rlt (m.prev_value.distance_squared w.as_axis3d) Gen.dlerpSnapEps then
          some ({ m with prev_value := w.as_axis3d }, w)
        else
          some ({ m with prev_value := m.prev_value.lerp w.as_axis3d ((t.delta_secs * m.speed).fmin 1) },
                (ActionValue.vAxis3D (m.prev_value.lerp w.as_axis3d ((t.delta_secs * m.speed).fmin 1))).convert w.dim)) := by
      cases w with
      | vBool b => cases hp
      | vAxis1D x => rfl
      | vAxis2D p => rfl
      | vAxis3D p => rfl
    rw [hrun]
    unfold Mod.deltaLerpStep
    simp only [hp, ← h3, rlt_rat, ltQ, Vec3.distance_squared, dlerpM, Tick.delta_secs, Rat.fmin, decide_eq_true_eq]
    by_cases hc : (V3.sub m.prev_value.toModel w.as_axis3d.toModel).normSq < Gen.dlerpSnapEps
    · rw [if_pos hc, if_pos hc]
      exact ⟨_, rfl, rfl, rfl, rfl⟩
    · rw [if_neg hc, if_neg hc]
      exact ⟨_, rfl, toModel_lerp _ _ _, (value_ofV3 _ _).trans (by rw [value_dim, toModel_lerp]), rfl⟩
  cases v with
  | vBool b =>
    have hstep : DeltaLerp.applyF (n + 2) m t (.vBool b) = DeltaLerp.applyF (n + 1) m t (.vAxis1D (if b then 1 else 0)) := by
      cases b <;> rfl
    rw [hstep]
    have := key (.vAxis1D (if b then 1 else 0)) n rfl
    cases b <;> exact this
  | _ => exact key _ (n + 1) rfl

theorem scale_apply (m : Scale) (v : ActionValue) :
    (m.apply v).2.toModel = Mod.scaleV m.factor.x m.factor.y m.factor.z v.toModel ∧ (m.apply v).1 = m := by
  cases v using ActionValue.casesSplitBool <;> mod_bridge

theorem deltaScale_apply (m : DeltaScale) (t : Tick) (v : ActionValue) :
    (m.apply t v).2.toModel = Mod.deltaScaleV t.delta v.toModel := by
  cases v using ActionValue.casesSplitBool <;> mod_bridge

end BEI.Bridge
