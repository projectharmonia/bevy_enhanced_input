/-
  Bridge: `ActionEvents::new` as translated from `/repo/src/input_context/events.rs` yields, for every pair of states,
  exactly the event list the model's `eventsOf` (table-driven) yields — so the transition-table theorems of C01 / C02 are
  about the source's `match`, arm by arm, read as code and not only as a table.
-/
import BEI.Gen.Code.Events
namespace BEI.Bridge
open BEI.Rs

theorem events_new (p c : AState) : (ActionEvents.new p c).toList = eventsOf p c := by
  cases p <;> cases c <;> decide +kernel

end BEI.Bridge
