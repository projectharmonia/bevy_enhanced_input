/-
  Bridge: `Chord<A>`, `BlockBy<A>` (evaluate and kind) and `AccumulateBy<A>` as translated from the source = the model's
  `Cond.chord`, `Cond.blockBy`, `Mod.accumulateByStep`, where `actions.action::<A>()` is the model's lookup `av.get? a`.
-/
import BEI.Gen.Code.Refs
import BEI.Bridge.Value
namespace BEI.Bridge
open BEI.Rs

theorem chord_evaluate (c : Chord) (i a : Nat) (av : ActionsView) (t : Tick) (v : ActionValue) :
    (c.evaluate ⟨av.get? a⟩ v).2 = ((Cond.chord i a).step () av t v.toModel).2
    ∧ c.kind.toModel = (Cond.chord i a).kind () := by
  cases h : av.get? a <;> simp [rs_refs, Cond.chord, h, ConditionKind.toModel]

theorem blockBy_evaluate (c : BlockBy) (i a : Nat) (av : ActionsView) (t : Tick) (v : ActionValue) :
    (c.evaluate ⟨av.get? a⟩ v).2 = ((Cond.blockBy i a c.events_only).step () av t v.toModel).2
    ∧ (c.evaluate ⟨av.get? a⟩ v).1 = c
    ∧ c.kind.toModel = (Cond.blockBy i a c.events_only).kind () := by
  -- the evaluation depends on the referenced action only, the kind on the flag only
  have he : c.evaluate ⟨av.get? a⟩ v = (c, ((Cond.blockBy i a c.events_only).step () av t v.toModel).2) := by
    cases h : av.get? a with
    | none => simp [rs_refs, Cond.blockBy, h]
    | some d => cases hs : d.state <;> simp [rs_refs, Cond.blockBy, h, hs]
  refine ⟨congrArg Prod.snd he, congrArg Prod.fst he, ?_⟩
  cases h : c.events_only <;> simp [rs_refs, Cond.blockBy, h, ConditionKind.toModel]

theorem accumulateBy_apply (m : AccumulateBy) (a : Nat) (av : ActionsView) (v : ActionValue) :
    ((m.apply ⟨av.get? a⟩ v).1.value.toModel, (m.apply ⟨av.get? a⟩ v).2.toModel)
      = Mod.accumulateByStep a m.value.toModel av v.toModel := by
  have h3 := value_as_axis3d v
  cases h : av.get? a with
  | none => simp [rs_refs, Mod.accumulateByStep, h]
  | some d =>
    cases hs : d.state <;>
      simp [rs_refs, Mod.accumulateByStep, h, hs, value_ofV3, value_dim, ← h3, toModel_add] <;>
      (try (first | rfl | (constructor <;> rfl)))

end BEI.Bridge
