/-
  Bridge: `evaluate` of the seven built-in timing conditions as translated from `/repo/src/input_context/input_condition/*.rs`
  = the model's step functions (`BEI/Model/Conditions.lean`), for every configuration, private state, tick and value; the
  configuration fields are never written.  Hence every theorem of Props/C11 about `Cond.press … Cond.pulse` is a theorem about
  the source's `evaluate` bodies as they read now.
-/
import BEI.Gen.Code.Conditions
import BEI.Bridge.Value
import BEI.Bridge.Timer
namespace BEI.Bridge
open BEI.Rs

/- As in `Bridge/Value.lean`: the unit's simp set also gets the bridge theorems of the units it calls (`is_actuated`, the timer), so
   that `simp [rs_conditions]` turns a translated body into the model's terms.  The timing conditions first decide the model's
   tests: for the source as it reads now `simp` then evaluates both sides; the tail (`split` what is left, `simp_all`) is for
   sources that nest their tests differently; `ltQ_eq_not_leQ` states a test that the source turns round (`held < hold_time`)
   through the model's `leQ` as well. -/
attribute [rs_conditions] value_is_actuated timer_update timer_reset timer_duration ltQ_eq_not_leQ

theorem press_evaluate (p : Press) (i : Nat) (av : ActionsView) (t : Tick) (v : ActionValue) :
    (p.evaluate v).2 = ((Cond.press i p.actuation).step () av t v.toModel).2 ∧ (p.evaluate v).1 = p := by
  simp [rs_conditions, Cond.press]

theorem justPress_evaluate (p : JustPress) (i : Nat) (av : ActionsView) (t : Tick) (v : ActionValue) :
    ((p.evaluate v).1.actuated, (p.evaluate v).2) = (Cond.justPress i p.actuation).step p.actuated av t v.toModel
    ∧ (p.evaluate v).1.actuation = p.actuation := by
  simp [rs_conditions, Cond.justPress]

theorem release_evaluate (p : Release) (i : Nat) (av : ActionsView) (t : Tick) (v : ActionValue) :
    ((p.evaluate v).1.actuated, (p.evaluate v).2) = (Cond.release i p.actuation).step p.actuated av t v.toModel
    ∧ (p.evaluate v).1.actuation = p.actuation := by
  simp [rs_conditions, Cond.release]

def holdM (h : Hold) : Cond.HoldSt := { timer := timerM h.timer, fired := h.fired }

theorem hold_evaluate (h : Hold) (t : Tick) (v : ActionValue) :
    (holdM (h.evaluate t v).1, (h.evaluate t v).2) = Cond.holdStep h.hold_time h.one_shot h.actuation (holdM h) t v.toModel
    ∧ (h.evaluate t v).1.hold_time = h.hold_time ∧ (h.evaluate t v).1.one_shot = h.one_shot
    ∧ (h.evaluate t v).1.actuation = h.actuation := by
  unfold Cond.holdStep holdM
  cases hv : v.toModel.isActuated h.actuation <;>
    simp [rs_conditions, hv] <;> (repeat' split) <;> simp_all [rs_conditions]

def holdRelM (h : HoldAndRelease) : Cond.HoldRelSt := { timer := timerM h.timer, actuated := h.actuated }

theorem holdAndRelease_evaluate (h : HoldAndRelease) (t : Tick) (v : ActionValue) :
    (holdRelM (h.evaluate t v).1, (h.evaluate t v).2) = Cond.holdRelStep h.hold_time h.actuation (holdRelM h) t v.toModel
    ∧ (h.evaluate t v).1.hold_time = h.hold_time ∧ (h.evaluate t v).1.actuation = h.actuation := by
  unfold Cond.holdRelStep holdRelM
  cases hv : v.toModel.isActuated h.actuation <;>
    simp [rs_conditions, hv] <;> (repeat' split) <;> simp_all [rs_conditions]

def tapM (h : Tap) : Cond.TapSt := { timer := timerM h.timer, actuated := h.actuated }

theorem tap_evaluate (h : Tap) (t : Tick) (v : ActionValue) :
    (tapM (h.evaluate t v).1, (h.evaluate t v).2) = Cond.tapStep h.release_time h.actuation (tapM h) t v.toModel
    ∧ (h.evaluate t v).1.release_time = h.release_time ∧ (h.evaluate t v).1.actuation = h.actuation := by
  unfold Cond.tapStep tapM
  cases hv : v.toModel.isActuated h.actuation <;>
    simp [rs_conditions, hv] <;> (repeat' split) <;> simp_all [rs_conditions]

def pulseM (h : Pulse) : Cond.PulseSt := { timer := timerM h.timer, count := h.trigger_count }

theorem pulse_evaluate (h : Pulse) (t : Tick) (v : ActionValue) :
    (pulseM (h.evaluate t v).1, (h.evaluate t v).2)
      = Cond.pulseStep h.interval h.trigger_limit h.trigger_on_start h.actuation (pulseM h) t v.toModel
    ∧ (h.evaluate t v).1.interval = h.interval ∧ (h.evaluate t v).1.trigger_limit = h.trigger_limit
    ∧ (h.evaluate t v).1.trigger_on_start = h.trigger_on_start ∧ (h.evaluate t v).1.actuation = h.actuation := by
  unfold Cond.pulseStep pulseM
  -- the model's tests, nested as in the model (`omega`: for a source that writes the limit test the other way round,
  -- `trigger_count >= trigger_limit`)
  cases hv : v.toModel.isActuated h.actuation
  case' true => cases hl : (h.trigger_limit == 0 || decide (h.trigger_count < h.trigger_limit))
  case' true.true =>
    cases hd : leQ (h.interval * ((if h.trigger_on_start then h.trigger_count else h.trigger_count + 1 : Nat) : Rat))
      ((timerM h.timer).update t).duration
  all_goals simp [rs_conditions, *] <;> (repeat' split) <;> simp_all [rs_conditions] <;> omega

end BEI.Bridge
