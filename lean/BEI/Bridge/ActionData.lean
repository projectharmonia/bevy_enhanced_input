/-
  Bridge: `ActionData::update` as translated from `/repo/src/input_context/context_instance.rs` = the model's
  `ActionData.update` (durations, stored events, state, value), so the duration theorems of C10 and the stored-events part
  of C01 are about the source's body.
-/
import BEI.Gen.Code.ActionData
import BEI.Bridge.Events
namespace BEI.Bridge
open BEI.Rs

def actionDataM (a : Rs.ActionData) : BEI.ActionData :=
  { state := a.state, events := a.events.toList, value := a.value.toModel, elapsed := a.elapsed_secs, fired := a.fired_secs }

theorem actionData_update (a : Rs.ActionData) (t : Tick) (st : AState) (v : ActionValue) :
    actionDataM (a.update t st v) = (actionDataM a).update t st v.toModel := by
  unfold BEI.ActionData.update actionDataM
  cases h : a.state <;> simp [rs_actiondata, h, events_new, RInto.into, Tick.delta_secs]

end BEI.Bridge
