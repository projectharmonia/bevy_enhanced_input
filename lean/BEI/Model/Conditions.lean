/-
  Built-in conditions as machines (mirror of `/repo/src/input_context/input_condition/*.rs`, fixes applied),
  plus the two scripted custom conditions the harness implements identically in Rust.
-/
import BEI.Model.Machine
namespace BEI

/-- `ConditionTimer`. -/
structure CTimer where
  relative : Bool := false
  duration : Rat := 0
  deriving DecidableEq, Repr, Inhabited

namespace CTimer
/-- `ConditionTimer::update`: virtual delta, unscaled by the relative speed unless configured otherwise;
    nothing is added when the scale is zero (D3 fix — the division is never performed with a zero divisor). -/
def update (tm : CTimer) (t : Tick) : CTimer :=
  let scale := if tm.relative then 1 else t.speed
  if scale != 0 then { tm with duration := tm.duration + t.delta / scale } else tm
def reset (tm : CTimer) : CTimer := { tm with duration := 0 }
end CTimer

/-- `a <= b` on `f32` durations, as a Boolean (fixes the decidability instance at the model level) -/
def leQ (a b : Rat) : Bool := decide (a ≤ b)

theorem leQ_iff {a b : Rat} : leQ a b = true ↔ a ≤ b := decide_eq_true_iff

namespace Cond

/-- `Press`. -/
def press (id : Nat) (act : Rat) : Cond :=
  { id, σ := Unit, s := (), kind := fun _ => .explicit,
    step := fun _ _ _ v => ((), if v.isActuated act then .fired else .none) }

/-- `JustPress` (state: previously actuated). -/
def justPress (id : Nat) (act : Rat) : Cond :=
  { id, σ := Bool, s := false, kind := fun _ => .explicit,
    step := fun prev _ _ v =>
      let a := v.isActuated act
      (a, if a && !prev then .fired else .none) }

/-- `Release`. -/
def release (id : Nat) (act : Rat) : Cond :=
  { id, σ := Bool, s := false, kind := fun _ => .explicit,
    step := fun prev _ _ v =>
      let a := v.isActuated act
      (a, if a then .ongoing else if prev then .fired else .none) }

structure HoldSt where
  timer : CTimer
  fired : Bool := false
  deriving DecidableEq, Repr, Inhabited

def holdStep (T : Rat) (oneShot : Bool) (act : Rat) (s : HoldSt) (t : Tick) (v : Value) : HoldSt × AState :=
  let actuated := v.isActuated act
  let timer := if actuated then s.timer.update t else s.timer.reset
  let isFirst := !s.fired
  let fired := leQ T timer.duration
  let st : AState :=
    if fired then (if isFirst || !oneShot then .fired else .none)
    else if actuated then .ongoing else .none
  ({ timer, fired }, st)

/-- `Hold`. -/
def hold (id : Nat) (T : Rat) (oneShot : Bool) (act : Rat) (rel : Bool) : Cond :=
  { id, σ := HoldSt, s := { timer := { relative := rel } }, kind := fun _ => .explicit,
    step := fun s _ t v => holdStep T oneShot act s t v }

structure HoldRelSt where
  timer : CTimer
  actuated : Bool := false
  deriving DecidableEq, Repr, Inhabited

def holdRelStep (T : Rat) (act : Rat) (s : HoldRelSt) (t : Tick) (v : Value) : HoldRelSt × AState :=
  let timer := s.timer.update t
  let held := timer.duration
  let prev := s.actuated
  let a := v.isActuated act
  if a then ({ timer, actuated := a }, .ongoing)
  else ({ timer := timer.reset, actuated := a }, if prev && leQ T held then .fired else .none)

/-- `HoldAndRelease` (with the D2 fix: fires only on a falling edge). -/
def holdAndRelease (id : Nat) (T : Rat) (act : Rat) (rel : Bool) : Cond :=
  { id, σ := HoldRelSt, s := { timer := { relative := rel } }, kind := fun _ => .explicit,
    step := fun s _ t v => holdRelStep T act s t v }

structure TapSt where
  timer : CTimer
  actuated : Bool := false
  deriving DecidableEq, Repr, Inhabited

def tapStep (T : Rat) (act : Rat) (s : TapSt) (t : Tick) (v : Value) : TapSt × AState :=
  let last := s.actuated
  let lastHeld := s.timer.duration
  let a := v.isActuated act
  let timer := if a then s.timer.update t else s.timer.reset
  let st : AState :=
    if last && !a && leQ lastHeld T then .fired
    else if leQ T timer.duration then .none
    else if a then .ongoing else .none
  ({ timer, actuated := a }, st)

/-- `Tap`. -/
def tap (id : Nat) (T : Rat) (act : Rat) (rel : Bool) : Cond :=
  { id, σ := TapSt, s := { timer := { relative := rel } }, kind := fun _ => .explicit,
    step := fun s _ t v => tapStep T act s t v }

structure PulseSt where
  timer : CTimer
  count : Nat := 0
  deriving DecidableEq, Repr, Inhabited

def pulseStep (I : Rat) (limit : Nat) (onStart : Bool) (act : Rat) (s : PulseSt) (t : Tick) (v : Value) :
    PulseSt × AState :=
  if v.isActuated act then
    let timer := s.timer.update t
    if limit == 0 || s.count < limit then
      let n : Nat := if onStart then s.count else s.count + 1
      if leQ (I * (n : Rat)) timer.duration then ({ timer, count := s.count + 1 }, .fired)
      else ({ timer, count := s.count }, .ongoing)
    else ({ timer, count := s.count }, .none)
  else ({ timer := s.timer.reset, count := 0 }, .none)

/-- `Pulse`. -/
def pulse (id : Nat) (I : Rat) (limit : Nat) (onStart : Bool) (act : Rat) (rel : Bool) : Cond :=
  { id, σ := PulseSt, s := { timer := { relative := rel } }, kind := fun _ => .explicit,
    step := fun s _ t v => pulseStep I limit onStart act s t v }

/-- `Chord<A>`: inherits the referenced action's state; absent action ⇒ `None`. Implicit. -/
def chord (id : Nat) (a : Nat) : Cond :=
  { id, σ := Unit, s := (), kind := fun _ => .implicit,
    step := fun _ av _ _ => ((), match av.get? a with | some d => d.state | none => .none) }

/-- `BlockBy<A>`: `None` exactly while the referenced action is `Fired`; absent action ⇒ never blocks. -/
def blockBy (id : Nat) (a : Nat) (eventsOnly : Bool) : Cond :=
  { id, σ := Unit, s := (), kind := fun _ => if eventsOnly then .eventsBlocker else .blocker,
    step := fun _ av _ _ =>
      ((), match av.get? a with
           | some d => if d.state == .fired then .none else .fired
           | none => .fired) }

/-- custom: returns `script[i mod len]` at its `i`-th invocation (harness `sscript`). -/
def scripted (id : Nat) (k : Kind) (script : List AState) : Cond :=
  { id, σ := Nat, s := 0, kind := fun _ => k,
    step := fun i _ _ _ => (i + 1, (script[i % script.length]?).getD .none) }

/-- custom: returns `rT` if the value is truthy else `rF` (harness `sact`). -/
def onActive (id : Nat) (k : Kind) (rT rF : AState) : Cond :=
  { id, σ := Unit, s := (), kind := fun _ => k,
    step := fun _ _ _ v => ((), if v.asBool then rT else rF) }

end Cond
end BEI
