/-
  Prelude for the code generated by `tools/rs2lean.py` (`BEI/Gen/Code/*.lean`): the few library types and primitives the
  translated Rust bodies mention — `glam::Vec2 / Vec3` over exact rationals, the `ActionValue` / `ActionValueDim` /
  `ConditionKind` / `Accumulation` enums *as the source spells them* (payloads are vectors, not components), the
  `ActionEvents` bit set, `Into<ActionValue>`, the two `Time<Virtual>` getters, and the maps from these types to the
  model's types.  Everything here is *modelled* (glam, bitflags, bevy_time): it is part of the trusted base; the enum
  shapes are re-checked against the source by the translator on every run.
-/
import BEI.Model.Conditions
import BEI.Model.Tracker
import BEI.Model.Modifiers
import BEI.Model.RsAttr
namespace BEI.Rs

/-- `a < b` on `f32`, as a Boolean. -/
def ltQ (a b : Rat) : Bool := decide (a < b)
theorem ltQ_iff (a b : Rat) : ltQ a b = true ↔ a < b := decide_eq_true_iff
theorem ltQ_eq_not_leQ (a b : Rat) : ltQ a b = !leQ b a := by
  rw [ltQ, leQ, ← decide_not]
  exact decide_eq_decide.mpr Rat.not_le.symm

/-- `<=` / `<` of the source (on `f32`, `u32`, …) as Booleans. -/
def rle {α : Type} [LE α] [DecidableRel (α := α) (· ≤ ·)] (a b : α) : Bool := decide (a ≤ b)
def rlt {α : Type} [LT α] [DecidableRel (α := α) (· < ·)] (a b : α) : Bool := decide (a < b)
@[simp] theorem rle_rat (a b : Rat) : rle a b = leQ a b := rfl
@[simp] theorem rlt_rat (a b : Rat) : rlt a b = ltQ a b := rfl
@[simp] theorem rlt_nat (a b : Nat) : rlt a b = decide (a < b) := rfl
@[simp] theorem rle_nat (a b : Nat) : rle a b = decide (a ≤ b) := rfl

/-- `f32::abs / max / min / signum` on finite values (`signum(+0.0) = 1.0`; rationals have no `-0.0`). -/
def _root_.Rat.fabs (x : Rat) : Rat := absQ x
def _root_.Rat.fmax (x y : Rat) : Rat := maxQ x y
def _root_.Rat.fmin (x y : Rat) : Rat := minQ x y
def _root_.Rat.fsignum (x : Rat) : Rat := signumQ x

structure Vec2 where
  x : Rat
  y : Rat
  deriving DecidableEq, Repr, Inhabited

structure Vec3 where
  x : Rat
  y : Rat
  z : Rat
  deriving DecidableEq, Repr, Inhabited

namespace Vec2
def ZERO : Vec2 := ⟨0, 0⟩
def X : Vec2 := ⟨1, 0⟩
def Y : Vec2 := ⟨0, 1⟩
def ONE : Vec2 := ⟨1, 1⟩
def extend (v : Vec2) (z : Rat) : Vec3 := ⟨v.x, v.y, z⟩
def splat (s : Rat) : Vec2 := ⟨s, s⟩
instance : HMul Vec2 Rat Vec2 := ⟨fun v s => ⟨v.x * s, v.y * s⟩⟩
instance : Mul Vec2 := ⟨fun a b => ⟨a.x * b.x, a.y * b.y⟩⟩
instance : Add Vec2 := ⟨fun a b => ⟨a.x + b.x, a.y + b.y⟩⟩
instance : Neg Vec2 := ⟨fun a => ⟨-a.x, -a.y⟩⟩
def yx (v : Vec2) : Vec2 := ⟨v.y, v.x⟩
/-- `Vec2::new` -/
protected def new (x y : Rat) : Vec2 := ⟨x, y⟩
def length_squared (v : Vec2) : Rat := v.x * v.x + v.y * v.y
/-- `glam::Vec2::length` through the model's square root (exact on the compared grid, DESIGN §2) -/
def length (v : Vec2) : Rat := V3.len ⟨v.x, v.y, 0⟩
/-- `glam::Vec2::normalize_or_zero` -/
def normalize_or_zero (v : Vec2) : Vec2 := if v.length == 0 then ZERO else v * (1 / v.length)
@[simp] theorem hmul_mk (a b s : Rat) : (({ x := a, y := b } : Vec2) * s) = { x := a * s, y := b * s } := rfl
@[simp] theorem hmul_x (v : Vec2) (s : Rat) : (v * s).x = v.x * s := rfl
@[simp] theorem hmul_y (v : Vec2) (s : Rat) : (v * s).y = v.y * s := rfl
@[simp] theorem mul_x (a b : Vec2) : (a * b).x = a.x * b.x := rfl
@[simp] theorem mul_y (a b : Vec2) : (a * b).y = a.y * b.y := rfl
end Vec2

namespace Vec3
def ZERO : Vec3 := ⟨0, 0, 0⟩
def X : Vec3 := ⟨1, 0, 0⟩
def Y : Vec3 := ⟨0, 1, 0⟩
def Z : Vec3 := ⟨0, 0, 1⟩
def ONE : Vec3 := ⟨1, 1, 1⟩
def xy (v : Vec3) : Vec2 := ⟨v.x, v.y⟩
def splat (s : Rat) : Vec3 := ⟨s, s, s⟩
def length_squared (v : Vec3) : Rat := v.x * v.x + v.y * v.y + v.z * v.z
instance : HMul Vec3 Rat Vec3 := ⟨fun v s => ⟨v.x * s, v.y * s, v.z * s⟩⟩
instance : Mul Vec3 := ⟨fun a b => ⟨a.x * b.x, a.y * b.y, a.z * b.z⟩⟩
instance : Add Vec3 := ⟨fun a b => ⟨a.x + b.x, a.y + b.y, a.z + b.z⟩⟩
instance : Neg Vec3 := ⟨fun a => ⟨-a.x, -a.y, -a.z⟩⟩
def toModel (v : Vec3) : V3 := ⟨v.x, v.y, v.z⟩
/-- `Vec3::new` -/
protected def new (x y z : Rat) : Vec3 := ⟨x, y, z⟩
def yxz (v : Vec3) : Vec3 := ⟨v.y, v.x, v.z⟩
def zyx (v : Vec3) : Vec3 := ⟨v.z, v.y, v.x⟩
def xzy (v : Vec3) : Vec3 := ⟨v.x, v.z, v.y⟩
def yzx (v : Vec3) : Vec3 := ⟨v.y, v.z, v.x⟩
def zxy (v : Vec3) : Vec3 := ⟨v.z, v.x, v.y⟩
def length (v : Vec3) : Rat := V3.len ⟨v.x, v.y, v.z⟩
def normalize_or_zero (v : Vec3) : Vec3 := if v.length == 0 then ZERO else v * (1 / v.length)
def distance_squared (a b : Vec3) : Rat := (V3.sub a.toModel b.toModel).normSq
/-- `glam::Vec3::lerp`: `a * (1 - s) + b * s` -/
def lerp (a b : Vec3) (s : Rat) : Vec3 := a * (1 - s) + b * s
@[simp] theorem hmul_mk (a b c s : Rat) : (({ x := a, y := b, z := c } : Vec3) * s) = { x := a * s, y := b * s, z := c * s } := rfl
@[simp] theorem hmul_x (v : Vec3) (s : Rat) : (v * s).x = v.x * s := rfl
@[simp] theorem hmul_y (v : Vec3) (s : Rat) : (v * s).y = v.y * s := rfl
@[simp] theorem hmul_z (v : Vec3) (s : Rat) : (v * s).z = v.z * s := rfl
@[simp] theorem mul_x (a b : Vec3) : (a * b).x = a.x * b.x := rfl
@[simp] theorem mul_y (a b : Vec3) : (a * b).y = a.y * b.y := rfl
@[simp] theorem mul_z (a b : Vec3) : (a * b).z = a.z * b.z := rfl
@[simp] theorem add_x (a b : Vec3) : (a + b).x = a.x + b.x := rfl
@[simp] theorem add_y (a b : Vec3) : (a + b).y = a.y + b.y := rfl
@[simp] theorem add_z (a b : Vec3) : (a + b).z = a.z + b.z := rfl
end Vec3

/-- `enum ActionValue` (variant names prefixed with `v` to keep `Bool` the type). -/
inductive ActionValue where
  | vBool (v : Bool)
  | vAxis1D (v : Rat)
  | vAxis2D (v : Vec2)
  | vAxis3D (v : Vec3)
  deriving DecidableEq, Repr, Inhabited

/-- `enum ActionValueDim`. -/
inductive ActionValueDim where
  | dBool | dAxis1D | dAxis2D | dAxis3D
  deriving DecidableEq, Repr, Inhabited

/-- `enum Accumulation`. -/
inductive Accumulation where
  | MaxAbs | Cumulative
  deriving DecidableEq, Repr, Inhabited

/-- `enum ConditionKind`. -/
inductive ConditionKind where
  | Explicit | Implicit | Blocker (events_only : Bool)
  deriving DecidableEq, Repr, Inhabited

/-- `Into<T>` (the conversions the translated bodies use). -/
class RInto (α : Type) (β : Type) where
  into : α → β
instance : RInto Bool ActionValue := ⟨.vBool⟩
instance : RInto Rat ActionValue := ⟨.vAxis1D⟩
instance : RInto Vec2 ActionValue := ⟨.vAxis2D⟩
instance : RInto Vec3 ActionValue := ⟨.vAxis3D⟩
instance : RInto ActionValue ActionValue := ⟨id⟩
instance : RInto (Rat × Rat) ActionValue := ⟨fun p => .vAxis2D ⟨p.1, p.2⟩⟩
instance : RInto (Rat × Rat × Rat) ActionValue := ⟨fun p => .vAxis3D ⟨p.1, p.2.1, p.2.2⟩⟩

/-- what `ActionsData::action::<A>()` yields for the one action type `A` a `Chord<A>` / `BlockBy<A>` / `AccumulateBy<A>` refers to -/
structure ActionsOf where
  action : Option BEI.ActionData

/-- `Time<Virtual>::delta_secs` / `relative_speed`. -/
def _root_.BEI.Tick.delta_secs (t : Tick) : Rat := t.delta
def _root_.BEI.Tick.relative_speed (t : Tick) : Rat := t.speed

/-- `bitflags! struct ActionEvents: u8`: a set of event kinds (bit values come from the extracted flag table). -/
structure ActionEvents where
  has : EvKind → Bool

namespace ActionEvents
def empty : ActionEvents := ⟨fun _ => false⟩
def STARTED : ActionEvents := ⟨fun k => k == .started⟩
def ONGOING : ActionEvents := ⟨fun k => k == .ongoing⟩
def FIRED : ActionEvents := ⟨fun k => k == .fired⟩
def CANCELED : ActionEvents := ⟨fun k => k == .canceled⟩
def COMPLETED : ActionEvents := ⟨fun k => k == .completed⟩
instance : OrOp ActionEvents := ⟨fun a b => ⟨fun k => a.has k || b.has k⟩⟩
/-- the set flags in `iter_names` order (declaration order of the flags, from the extracted table) -/
def toList (e : ActionEvents) : List EvKind := (Gen.flags.map (·.1)).filter e.has
end ActionEvents

/-! maps to the model's types -/
namespace ActionValue
def toModel : ActionValue → Value
  | .vBool b => .bool b
  | .vAxis1D x => .a1 x
  | .vAxis2D v => .a2 v.x v.y
  | .vAxis3D v => .a3 v.x v.y v.z
def ofModel : Value → ActionValue
  | .bool b => .vBool b
  | .a1 x => .vAxis1D x
  | .a2 x y => .vAxis2D ⟨x, y⟩
  | .a3 x y z => .vAxis3D ⟨x, y, z⟩
@[simp] theorem toModel_ofModel (v : Value) : (ofModel v).toModel = v := by cases v <;> rfl
@[simp] theorem ofModel_toModel (v : ActionValue) : ofModel v.toModel = v := by cases v <;> rfl
theorem toModel_injective : Function.Injective toModel := Function.LeftInverse.injective ofModel_toModel

/-- the case split of the bridge proofs: the variants of a value, with the payload of a `Bool` split as well -/
@[elab_as_elim] theorem casesSplitBool {motive : ActionValue → Prop} (vTrue : motive (.vBool true))
    (vFalse : motive (.vBool false)) (vAxis1D : ∀ x, motive (.vAxis1D x)) (vAxis2D : ∀ p, motive (.vAxis2D p))
    (vAxis3D : ∀ p, motive (.vAxis3D p)) : ∀ v, motive v
  | .vBool true => vTrue
  | .vBool false => vFalse
  | .vAxis1D x => vAxis1D x
  | .vAxis2D p => vAxis2D p
  | .vAxis3D p => vAxis3D p
end ActionValue

namespace ActionValueDim
def toModel : ActionValueDim → Dim
  | .dBool => .bool | .dAxis1D => .a1 | .dAxis2D => .a2 | .dAxis3D => .a3
def ofModel : Dim → ActionValueDim
  | .bool => .dBool | .a1 => .dAxis1D | .a2 => .dAxis2D | .a3 => .dAxis3D
@[simp] theorem toModel_ofModel (d : Dim) : (ofModel d).toModel = d := by cases d <;> rfl
@[simp] theorem ofModel_toModel (d : ActionValueDim) : ofModel d.toModel = d := by cases d <;> rfl
theorem toModel_injective : Function.Injective toModel := Function.LeftInverse.injective ofModel_toModel
end ActionValueDim

namespace ConditionKind
def toModel : ConditionKind → Kind
  | .Explicit => .explicit
  | .Implicit => .implicit
  | .Blocker false => .blocker
  | .Blocker true => .eventsBlocker
def ofModel : Kind → ConditionKind
  | .explicit => .Explicit
  | .implicit => .Implicit
  | .blocker => .Blocker false
  | .eventsBlocker => .Blocker true
@[simp] theorem toModel_ofModel (k : Kind) : (ofModel k).toModel = k := by cases k <;> rfl
end ConditionKind

namespace Accumulation
def toModel : Accumulation → Accum
  | .MaxAbs => .maxAbs | .Cumulative => .cumulative
end Accumulation

end BEI.Rs
